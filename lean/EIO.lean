import EIO.Base.Bytes
import EIO.Model.WT
import EIO.Spec.WT
import EIO.Lemmas.WTWriter
import EIO.Lemmas.WTReader
import EIO.Props.C13
import EIO.Props.C14
import EIO.Props.C15
import EIO.Model.Admit
import EIO.Spec.Admit
import EIO.Model.Route
import EIO.Props.C05
import EIO.Props.C05Route
import EIO.Model.Ids
import EIO.Model.Containers
import EIO.Props.Ids
import EIO.Props.Yeast
import EIO.Props.C20Slice
import EIO.Props.C20Emitter
import EIO.Model.Timer
import EIO.Props.C19
import EIO.Model.Codec
import EIO.Model.Session
import EIO.Lemmas.World
import EIO.Props.Codec
import EIO.Props.C16
import EIO.Props.Jsonp
import EIO.Props.SessionLocal
import EIO.Props.C02Deliver
import EIO.Lemmas.Acc
import EIO.Lemmas.Quiet
import EIO.Lemmas.SesInv
import EIO.Lemmas.SesStep
import EIO.Lemmas.SesAcc
import EIO.Lemmas.SesFlush
import EIO.Lemmas.SesOps
import EIO.Props.Session
import EIO.Props.C12Close
import EIO.Props.C07Heartbeat
import EIO.Props.C11Overlap
import EIO.Lemmas.Link
import EIO.Lemmas.LinkOps
import EIO.Lemmas.LinkStep
import EIO.Lemmas.RegSub
import EIO.Props.C12Shutdown
import EIO.Lemmas.Hb
import EIO.Lemmas.HbStep
import EIO.Props.C07Timers
import EIO.Props.C08Fail
import EIO.Props.C17Cookie
import EIO.Props.C10Body
import EIO.Props.C01Wire
import EIO.Props.C01Poll
import EIO.Model.Cors
import EIO.Props.C17Cors
import EIO.Props.C18Drain
import EIO.Props.CodecV3
import EIO.Lemmas.Poll
import EIO.Lemmas.PollStep
import EIO.Lemmas.Pend
import EIO.Lemmas.PendStep
import EIO.Lemmas.Only
import EIO.Lemmas.Conn
import EIO.Lemmas.Msg
import EIO.Lemmas.Reach
import EIO.Props.C11Pending
import EIO.Props.C06Announce
import EIO.Props.C10Delivered
import EIO.Props.C02History
import EIO.Props.C03Reasons
import EIO.Props.C07Deadline
import EIO.Props.C08Only
import EIO.Props.C09Hang
import EIO.Props.C18Create
import EIO.Props.C20Map
