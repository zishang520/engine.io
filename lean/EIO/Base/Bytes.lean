/-
Base vocabulary shared by all models: byte strings, message kinds, big-endian
integers, and the digit arithmetic under the two base64 models. Core Lean only
(the compiled driver links against this file). At the head, `ite_ind` and
`foldl_ind`, the two induction principles nearly every proof about the session model uses.
-/

namespace EIO

/-- case analysis on an `if`, for any motive: `refine ite_ind (fun h => …) fun h => ?_` unifies with the conditional and
    rewrites nothing, where `split` rewrites the whole goal (very slow on a goal that holds a large term) -/
theorem ite_ind {α : Sort _} {P : α → Prop} {c : Prop} [Decidable c] {a b : α} (ha : c → P a) (hb : ¬ c → P b) :
    P (if c then a else b) := by
  split
  · exact ha ‹_›
  · exact hb ‹_›

theorem foldl_ind {α β} {P : β → Prop} {g : β → α → β} {l : List α} {b : β} (hg : ∀ b a, P b → P (g b a)) (h : P b) :
    P (l.foldl g b) := by
  induction l generalizing b with
  | nil => exact h
  | cons a rest ih => exact ih (hg _ _ h)

abbrev Bytes := List UInt8

inductive Kind where
  | text | binary
  deriving DecidableEq, Repr, Inhabited

structure Msg where
  kind : Kind
  data : Bytes
  deriving DecidableEq, Repr, Inhabited

/-- `k` bytes, big endian, of `n mod 256^k` (Go: `binary.BigEndian.PutUintNN`). -/
def be : Nat → Nat → Bytes
  | 0, _ => []
  | k + 1, n => be k (n / 256) ++ [UInt8.ofNat (n % 256)]

/-- Big-endian value of a byte string (Go: `binary.BigEndian.UintNN`). -/
def unbe (bs : Bytes) : Nat :=
  bs.foldl (fun acc b => acc * 256 + b.toNat) 0

theorem snoc_induction {α : Type} {motive : List α → Prop} (nil : motive [])
    (snoc : ∀ l a, motive l → motive (l ++ [a])) : ∀ l, motive l := by
  intro l
  rw [← List.reverse_reverse l]
  induction l.reverse with
  | nil => exact nil
  | cons a r ih => rw [List.reverse_cons]; exact snoc _ a ih

theorem getD_mem {α : Type} {l : List α} {d : α} (hd : d ∈ l) (i : Nat) : l.getD i d ∈ l := by
  rw [List.getD_eq_getElem?_getD]
  cases h : l[i]? with
  | none => exact hd
  | some a => exact List.mem_of_getElem? h

/-- in a list whose entries have different codes `f`, `idxOf` finds the position that `getD` read. The alphabets
    are checked by evaluation, and the kernel compares numbers much faster than characters: hence the codes. -/
theorem idxOf_getD {α β : Type} [BEq α] [LawfulBEq α] (f : α → β) {l : List α} (h : (l.map f).Nodup) {i : Nat}
    (hi : i < l.length) (d : α) : l.idxOf (l.getD i d) = i := by
  have hn : l.Nodup := List.Pairwise.of_map f (fun _ _ hne e => hne (congrArg f e)) h
  rw [List.getD_eq_getElem?_getD, List.getElem?_eq_getElem hi, Option.getD_some]
  exact hn.idxOf_getElem i hi

@[simp] theorem be_length (k n : Nat) : (be k n).length = k := by
  induction k generalizing n with
  | zero => simp [be]
  | succ k ih => simp [be, ih]

theorem unbe_append_single (bs : Bytes) (b : UInt8) :
    unbe (bs ++ [b]) = unbe bs * 256 + b.toNat := by
  simp [unbe, List.foldl_append]

theorem unbe_be (k n : Nat) : unbe (be k n) = n % 256 ^ k := by
  induction k generalizing n with
  | zero => simp [be, unbe, Nat.mod_one]
  | succ k ih =>
    have h : (UInt8.ofNat (n % 256)).toNat = n % 256 := by simp
    rw [be, unbe_append_single, ih, h, Nat.pow_succ, Nat.mul_comm (256 ^ k), Nat.mod_mul, Nat.add_comm,
      Nat.mul_comm]

theorem unbe_be_of_lt (k n : Nat) (h : n < 256 ^ k) : unbe (be k n) = n := by
  rw [unbe_be, Nat.mod_eq_of_lt h]

theorem horner_div (q : Nat) {d B : Nat} (h : d < B) : (q * B + d) / B = q := by
  rw [Nat.mul_comm, Nat.mul_add_div (Nat.zero_lt_of_lt h), Nat.div_eq_of_lt h, Nat.add_zero]

theorem be_snoc (k m : Nat) (b : UInt8) : be (k + 1) (m * 256 + b.toNat) = be k m ++ [b] := by
  rw [be, horner_div m b.toNat_lt, Nat.mul_add_mod_of_lt b.toNat_lt, UInt8.ofNat_toNat]

theorem be_unbe (bs : Bytes) : be bs.length (unbe bs) = bs := by
  induction bs using snoc_induction with
  | nil => rfl
  | snoc bs b ih => rw [List.length_append, List.length_singleton, unbe_append_single, be_snoc, ih]

theorem unbe_lt (bs : Bytes) : unbe bs < 256 ^ bs.length := by
  -- `unbe bs` is its own residue: `be` takes it back to `bs`, and `unbe_be` takes that to the residue
  have h := unbe_be bs.length (unbe bs)
  rw [be_unbe] at h
  rw [h]
  exact Nat.mod_lt _ (Nat.pow_pos (by decide))

/-! ### three bytes as four base-64 digits
Both base64 models (`Codec.b64Std`, `Ids.b64Encode`) cut the digits out of the group `a * 65536 + b * 256 + c`
in the same way, as `encoding/base64` does. -/

theorem group_bytes {a b c n : Nat} (ha : a < 256) (hb : b < 256) (hc : c < 256)
    (h : n = a * 65536 + b * 256 + c) :
    n / 262144 < 64 ∧ n / 65536 = a ∧ n / 256 % 256 = b ∧ n % 256 = c := by
  have hn : n = (a * 256 + b) * 256 + c := by rw [h, Nat.add_mul, Nat.mul_assoc]
  have hq : n / 256 = a * 256 + b := by rw [hn, horner_div _ hc]
  have e : n / 65536 = a := by rw [← Nat.div_div_eq_div_mul n 256 256, hq, horner_div _ hb]
  refine ⟨?_, e, ?_, ?_⟩
  · rw [← Nat.div_div_eq_div_mul n 65536 4, e]; exact Nat.div_lt_of_lt_mul ha
  · rw [hq, Nat.mul_add_mod_of_lt hb]
  · rw [hn, Nat.mul_add_mod_of_lt hc]

/-- the leading two, three and all four base-64 digits of `n` put together again (the first two are what a
    padded last group decodes to) -/
theorem sextets_join2 (n : Nat) : n / 262144 * 64 + n / 4096 % 64 = n / 4096 := by
  rw [← Nat.div_div_eq_div_mul n 4096 64]; exact Nat.div_add_mod' _ 64

theorem sextets_join3 (n : Nat) : n / 262144 * 4096 + n / 4096 % 64 * 64 + n / 64 % 64 = n / 64 := by
  have := Nat.div_add_mod' (n / 64) 64
  rwa [Nat.div_div_eq_div_mul, ← sextets_join2, Nat.add_mul, Nat.mul_assoc] at this

theorem sextets_join (n : Nat) :
    n / 262144 * 262144 + n / 4096 % 64 * 4096 + n / 64 % 64 * 64 + n % 64 = n := by
  have := Nat.div_add_mod' n 64
  rwa [← sextets_join3, Nat.add_mul, Nat.add_mul, Nat.mul_assoc, Nat.mul_assoc] at this

end EIO
