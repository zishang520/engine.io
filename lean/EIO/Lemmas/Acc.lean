import EIO.Model.Session
/-
The session log, as a list. Accounting: what the log says was accepted (packetCreate), handed to a transport (flush), run
(send callbacks) and switched (upgrade), as plain list projections, and what holds of these accounts at every prefix of
the log; entries of other sessions, or of a kind no account reads, leave a session's accounts alone (`NeutralFor`).
Close events: nothing of a session follows its close event (`LogOK`). `LogInv`: what the invariant says of the log as
a whole, with what an appended entry must show to keep it.
-/
namespace EIO.Ses
open EIO EIO.Codec

/-- the entries of session `sid`, mapped through `f` -/
def proj {α} (f : SEv → List α) (sid : Nat) (l : List (Nat × SEv)) : List α :=
  l.flatMap fun e => if e.1 = sid then f e.2 else []

def fCreatedPkt : SEv → List Pkt | .packetCreate p _ => [p] | _ => []
def fCreatedCb : SEv → List Nat | .packetCreate _ (some id) => [id] | _ => []
def fFlushedPkt : SEv → List Pkt | .flush b _ => b | _ => []
def fFlushedCb : SEv → List Nat | .flush _ c => c | _ => []
def fRanCb : SEv → List Nat | .cb id => [id] | _ => []
def fUpgrade : SEv → List Unit | .upgrade => [()] | _ => []

-- packets accepted by `sendPacket`, in order
notation "createdPkts" => proj fCreatedPkt
-- the callbacks handed to `Send`, in order
notation "createdCbs" => proj fCreatedCb
-- packets handed to a transport by `flush`, in order
notation "flushedPkts" => proj fFlushedPkt
-- the callbacks that travelled with the flushed batches
notation "flushedCbs" => proj fFlushedCb
-- the callbacks that have run
notation "ranCbs" => proj fRanCb
def upgradeCount (sid : Nat) (l : List (Nat × SEv)) : Nat := (proj fUpgrade sid l).length

/-- the events that do not enter the accounts -/
def SEv.accNeutral : SEv → Bool
  | .packetCreate _ _ => false
  | .flush _ _ => false
  | .cb _ => false
  | .upgrade => false
  | _ => true

def entries (sid : Nat) (es : List SEv) : List (Nat × SEv) := es.map fun e => (sid, e)

@[simp] theorem entries_nil (sid : Nat) : entries sid [] = [] := rfl
@[simp] theorem entries_cons (sid : Nat) (e : SEv) (es : List SEv) : entries sid (e :: es) = (sid, e) :: entries sid es := rfl

theorem fst_of_mem_entries {x : Nat × SEv} {sid : Nat} {es : List SEv} (h : x ∈ entries sid es) : x.1 = sid := by
  obtain ⟨e, _, rfl⟩ := List.mem_map.mp h; rfl

theorem proj_nil {α} (f : SEv → List α) (sid : Nat) : proj f sid [] = [] := rfl

theorem proj_append {α} (f : SEv → List α) (sid : Nat) (a b : List (Nat × SEv)) :
    proj f sid (a ++ b) = proj f sid a ++ proj f sid b := by
  unfold proj; simp [List.flatMap_append]

theorem proj_snoc_self {α} (f : SEv → List α) (sid : Nat) (e : SEv) (l : List (Nat × SEv)) :
    proj f sid (l ++ [(sid, e)]) = proj f sid l ++ f e := by
  unfold proj; simp [List.flatMap_append]

theorem proj_append_entries {α} (f : SEv → List α) (sid : Nat) (es : List SEv) :
    ∀ l, proj f sid (l ++ entries sid es) = proj f sid l ++ es.flatMap f := by
  induction es with
  | nil => intro l; simp
  | cons e es ih =>
    intro l
    have h2 : l ++ entries sid (e :: es) = (l ++ [(sid, e)]) ++ entries sid es := by simp
    rw [h2, ih, proj_snoc_self]; simp [List.append_assoc]

theorem neutral_created (e : SEv) (h : e.accNeutral = true) : fCreatedPkt e = [] ∧ fCreatedCb e = [] := by
  cases e <;> simp_all [SEv.accNeutral, fCreatedPkt, fCreatedCb]
theorem neutral_flushed (e : SEv) (h : e.accNeutral = true) : fFlushedPkt e = [] ∧ fFlushedCb e = [] := by
  cases e <;> simp_all [SEv.accNeutral, fFlushedPkt, fFlushedCb]
theorem neutral_ran (e : SEv) (h : e.accNeutral = true) : fRanCb e = [] ∧ fUpgrade e = [] := by
  cases e <;> simp_all [SEv.accNeutral, fRanCb, fUpgrade]

theorem proj_empty_of_fresh {α} (f : SEv → List α) (sid : Nat) (l : List (Nat × SEv))
    (hf : ∀ e, e.accNeutral = true → f e = [])
    (h : ∀ e ∈ l, e.2.accNeutral = false → e.1 ≠ sid) : proj f sid l = [] := by
  unfold proj
  apply List.flatMap_eq_nil_iff.mpr
  intro e he
  by_cases hs : e.1 = sid
  · simp only [hs, if_true]
    cases hn : e.2.accNeutral with
    | true => exact hf _ hn
    | false => exact absurd hs (h e he hn)
  · simp [hs]

/-- none of the entries enters an account of session `sid`: each is of another session, or of a kind no account reads -/
def NeutralFor (sid : Nat) (added : List (Nat × SEv)) : Prop := ∀ x ∈ added, x.2.accNeutral = false → x.1 ≠ sid

theorem proj_append_neutral (sid : Nat) (l added : List (Nat × SEv)) (h : NeutralFor sid added) :
    createdPkts sid (l ++ added) = createdPkts sid l ∧ createdCbs sid (l ++ added) = createdCbs sid l ∧
    flushedPkts sid (l ++ added) = flushedPkts sid l ∧ flushedCbs sid (l ++ added) = flushedCbs sid l ∧
    ranCbs sid (l ++ added) = ranCbs sid l ∧ upgradeCount sid (l ++ added) = upgradeCount sid l := by
  have key : ∀ {α} (f : SEv → List α), (∀ e, e.accNeutral = true → f e = []) → proj f sid (l ++ added) = proj f sid l :=
    fun f hf => by rw [proj_append, proj_empty_of_fresh f sid added hf h, List.append_nil]
  exact ⟨key _ fun e h => (neutral_created e h).1, key _ fun e h => (neutral_created e h).2,
    key _ fun e h => (neutral_flushed e h).1, key _ fun e h => (neutral_flushed e h).2, key _ fun e h => (neutral_ran e h).1,
    congrArg List.length (key _ fun e h => (neutral_ran e h).2)⟩

theorem neutral_other {sid j : Nat} (hj : sid ≠ j) (es : List SEv) : NeutralFor j (entries sid es) :=
  fun _ hx _ h => hj ((fst_of_mem_entries hx).symm.trans h)

theorem neutral_single {e : SEv} (hn : e.accNeutral = true) (s sid : Nat) : NeutralFor sid [(s, e)] :=
  fun x hx hf => by cases List.mem_singleton.mp hx; rw [hn] at hf; cases hf

/-! ### what holds of the accounts at every point of the log -/

/-- handed over ⊑ accepted, run ⊑ handed over, at most one switch -/
def HistAt (sid : Nat) (l : List (Nat × SEv)) : Prop :=
  flushedPkts sid l <+: createdPkts sid l ∧ flushedCbs sid l <+: createdCbs sid l ∧
  ranCbs sid l <+: flushedCbs sid l ∧ upgradeCount sid l ≤ 1

/-- … at every prefix of the log, i.e. at every moment of the history -/
def LogHist (l : List (Nat × SEv)) : Prop := ∀ pre, pre <+: l → ∀ sid, HistAt sid pre

/-- a flush hands over everything accepted so far: right after a flush entry, both queues are empty -/
def FlushTight (l : List (Nat × SEv)) : Prop :=
  ∀ pre sid b c, pre ++ [(sid, SEv.flush b c)] <+: l →
    createdPkts sid (pre ++ [(sid, SEv.flush b c)]) = flushedPkts sid (pre ++ [(sid, SEv.flush b c)]) ∧
    createdCbs sid (pre ++ [(sid, SEv.flush b c)]) = flushedCbs sid (pre ++ [(sid, SEv.flush b c)])

/-- what `FlushTight` says of the log as it stands right after one flush entry of `sid` -/
def TightAt (sid : Nat) (l : List (Nat × SEv)) : Prop :=
  createdPkts sid l = flushedPkts sid l ∧ createdCbs sid l = flushedCbs sid l

theorem histAt_nil (sid : Nat) : HistAt sid [] := by
  unfold HistAt upgradeCount; simp [proj_nil]

theorem logHist_nil : LogHist [] := by
  intro pre hp sid
  have : pre = [] := List.prefix_nil.mp hp
  subst this; exact histAt_nil sid

theorem flushTight_nil : FlushTight [] := by
  intro pre sid b c h
  have := List.prefix_nil.mp h
  simp at this

theorem HistAt.append_neutral {sid : Nat} {l : List (Nat × SEv)} (h : HistAt sid l) (added : List (Nat × SEv))
    (hn : NeutralFor sid added) : HistAt sid (l ++ added) := by
  obtain ⟨a, b, c, d, e, f⟩ := proj_append_neutral sid l added hn
  unfold HistAt
  rw [a, b, c, d, e, f]; exact h

theorem logHist_snoc (l : List (Nat × SEv)) (x : Nat × SEv) (h : LogHist l) (hx : ∀ sid, HistAt sid (l ++ [x])) :
    LogHist (l ++ [x]) := by
  intro pre hp sid
  rcases List.prefix_concat_iff.mp hp with h1 | h1
  · rw [h1]; exact hx sid
  · exact h pre h1 sid

theorem logHist_prefix (a b : List (Nat × SEv)) (h : LogHist (a ++ b)) : LogHist a :=
  fun pre hp sid => h pre (hp.trans (List.prefix_append _ _)) sid

theorem flushTight_snoc (l : List (Nat × SEv)) (sid : Nat) (e : SEv) (h : FlushTight l)
    (hx : ∀ b c, e = SEv.flush b c → TightAt sid (l ++ [(sid, e)])) : FlushTight (l ++ [(sid, e)]) := by
  intro pre j b c hp
  rcases List.prefix_concat_iff.mp hp with h1 | h1
  · obtain ⟨e1, e2⟩ := List.append_inj' h1 rfl
    cases e2; subst e1
    exact hx b c rfl
  · exact h pre j b c h1


/-- the log holds a close event of session `sid` -/
def closeIn (sid : Nat) (l : List (Nat × SEv)) : Prop := ∃ e ∈ l, e.1 = sid ∧ e.2.isClose = true

/-- the events the property lists as impossible after the close event (everything but the
    `upgrading` notification, which the property does not mention) -/
def SEv.final : SEv → Bool
  | .upgrading => false
  | _ => true

/-- once a session's close event is in the log, no later entry of that session follows, `upgrading` apart (`SEv.final`) -/
def LogOK (l : List (Nat × SEv)) : Prop :=
  ∀ pre e post, l = pre ++ e :: post → e.2.final = true → ¬ closeIn e.1 pre

theorem closeIn_append (sid : Nat) (a b : List (Nat × SEv)) : closeIn sid (a ++ b) ↔ closeIn sid a ∨ closeIn sid b := by
  unfold closeIn; simp only [List.mem_append, or_and_right, exists_or]

theorem closeIn_single (sid sid' : Nat) (e : SEv) : closeIn sid [(sid', e)] ↔ sid' = sid ∧ e.isClose = true := by
  unfold closeIn; simp

theorem closeIn_nil (sid : Nat) : ¬ closeIn sid [] := by
  unfold closeIn; simp

theorem closeIn_prefix (sid : Nat) (pre e post) (h : closeIn sid pre) : closeIn sid (pre ++ e :: post) :=
  (closeIn_append sid pre (e :: post)).mpr (Or.inl h)

theorem closeIn_append_noclose {sid : Nat} {added : List (Nat × SEv)} (h : ∀ x ∈ added, x.1 = sid → x.2.isClose = false)
    (l : List (Nat × SEv)) : closeIn sid (l ++ added) ↔ closeIn sid l := by
  rw [closeIn_append]
  refine ⟨fun h' => h'.elim id fun ⟨x, hx, h1, h2⟩ => ?_, Or.inl⟩
  rw [h x hx h1] at h2; cases h2

theorem logOK_nil : LogOK [] := by
  intro pre e post h
  cases pre <;> simp at h

theorem logOK_snoc (l : List (Nat × SEv)) (x : Nat × SEv) (h : LogOK l) (hx : x.2.final = true → ¬ closeIn x.1 l) :
    LogOK (l ++ [x]) := by
  intro pre e post heq hfin
  -- either `e` is the new last element or the split lies inside `l`
  rcases List.eq_nil_or_concat post with hp | ⟨post', y, hp⟩
  · subst hp
    have : l = pre ∧ x = e := by
      have := List.append_inj' heq (by simp)
      simpa using this
    obtain ⟨h1, h2⟩ := this
    subst h1; subst h2
    exact hx hfin
  · subst hp
    have heq' : l ++ [x] = (pre ++ e :: post') ++ [y] := by simpa using heq
    have := List.append_inj' heq' (by simp)
    exact h pre e post' this.1 hfin

theorem logOK_prefix (a b : List (Nat × SEv)) (h : LogOK (a ++ b)) : LogOK a := by
  intro pre e post heq hfin
  exact h pre e (post ++ b) (by simp [heq]) hfin

/-- what the invariant says of the log as a whole, `n` being the number of sessions -/
structure LogInv (n : Nat) (l : List (Nat × SEv)) : Prop where
  ok : LogOK l
  fresh : ∀ e ∈ l, e.2.accNeutral = false → e.1 < n
  hist : LogHist l
  tight : FlushTight l

theorem LogInv.mono {n n' : Nat} {l : List (Nat × SEv)} (h : LogInv n l) (hn : n ≤ n') : LogInv n' l :=
  ⟨h.ok, fun e he hf => Nat.lt_of_lt_of_le (h.fresh e he hf) hn, h.hist, h.tight⟩

theorem LogInv.snoc {n : Nat} {l : List (Nat × SEv)} (h : LogInv n l) (x : Nat) (e : SEv) (hc : e.final = true → ¬ closeIn x l)
    (hsz : e.accNeutral = false → x < n) (hhist : e.accNeutral = false → HistAt x (l ++ [(x, e)]))
    (htight : ∀ b c, e = SEv.flush b c → TightAt x (l ++ [(x, e)])) : LogInv n (l ++ [(x, e)]) := by
  refine ⟨logOK_snoc _ _ h.ok hc, fun y hy hf => ?_, logHist_snoc _ _ h.hist fun j => ?_, flushTight_snoc _ _ _ h.tight htight⟩
  · rcases List.mem_append.mp hy with m | m
    · exact h.fresh y m hf
    · cases List.mem_singleton.mp m; exact hsz hf
  · by_cases hj : x = j ∧ e.accNeutral = false
    · exact hj.1 ▸ hhist hj.2
    · refine (h.hist _ (List.prefix_refl _) j).append_neutral _ fun y hy hf hyj => hj ?_
      cases List.mem_singleton.mp hy; exact ⟨hyj, hf⟩

theorem LogInv.snoc_neutral {n : Nat} {l : List (Nat × SEv)} (h : LogInv n l) (x : Nat) (e : SEv) (hn : e.accNeutral = true)
    (hc : e.final = true → ¬ closeIn x l) : LogInv n (l ++ [(x, e)]) :=
  h.snoc x e hc (fun hf => by rw [hn] at hf; cases hf) (fun hf => by rw [hn] at hf; cases hf) fun b c hx => by rw [hx] at hn; cases hn

theorem LogInv.append_ses {n : Nat} (sid : Nat) (es : List SEv) (hes : ∀ e ∈ es, e.isClose = false) (hsz : sid < n) :
    ∀ {l : List (Nat × SEv)}, LogInv n l → ¬ closeIn sid l → (∀ k, HistAt sid (l ++ entries sid (es.take k))) →
      (∀ k b c, es[k]? = some (SEv.flush b c) → TightAt sid (l ++ entries sid (es.take (k + 1)))) →
      LogInv n (l ++ entries sid es) := by
  induction es with
  | nil => intro l h _ _ _; rwa [entries_nil, List.append_nil]
  | cons e es ih =>
    intro l h hnc hhist htight
    have h1 : LogInv n (l ++ [(sid, e)]) := h.snoc sid e (fun _ => hnc) (fun _ => hsz) (fun _ => by simpa using hhist 1)
      fun b c hb => by simpa using htight 0 b c (by simp [hb])
    have hnc1 : ¬ closeIn sid (l ++ [(sid, e)]) := fun hc => hnc ((closeIn_append_noclose (fun y hy _ => by
      cases List.mem_singleton.mp hy; exact hes e (List.mem_cons_self ..)) l).mp hc)
    have := ih (fun x hx => hes x (List.mem_cons_of_mem _ hx)) h1 hnc1
      (fun k => by simpa [List.append_assoc] using hhist (k + 1))
      (fun k b c hk => by simpa [List.append_assoc] using htight (k + 1) b c (by simpa using hk))
    simpa [List.append_assoc] using this

end EIO.Ses
