import EIO.Lemmas.Only
/-
Who may announce a session: the `connection` entry of the session log is written by `openSession` and by nothing
else, and nothing but `openSession` creates a session record. Hence one `connection` entry per session, for every
history: `step_conn`.
-/
namespace EIO.Ses
open EIO EIO.Codec

def SEv.isConnection : SEv → Bool
  | .connection _ _ _ => true
  | _ => false

/-- no session record is created, no `connection` entry logged -/
def noConn : May := .allBut SEv.isConnection False

theorem routine_noConn : Routine noConn.log := by constructor <;> intros <;> rfl

/-- the `connection` entries of session `sid` -/
def connEntries (sid : Nat) (l : List (Nat × SEv)) : List (Nat × SEv) := l.filter fun e => e.1 == sid && e.2.isConnection

structure ConnInv (w : World) : Prop where
  named : ∀ e ∈ w.slog, e.2.isConnection = true → e.1 < w.socks.size
  once : ∀ sid, (connEntries sid w.slog).length ≤ 1

theorem connEntries_append (sid : Nat) (a b : List (Nat × SEv)) : connEntries sid (a ++ b) = connEntries sid a ++ connEntries sid b := by
  unfold connEntries; rw [List.filter_append]

theorem connEntries_none (sid : Nat) (l : List (Nat × SEv)) (h : ∀ e ∈ l, e.2.isConnection = false) : connEntries sid l = [] := by
  unfold connEntries
  apply List.filter_eq_nil_iff.mpr
  intro e he hc
  have := h e he
  simp [this] at hc

theorem Only.conn {w w' : World} (c : Only noConn w w') (i : ConnInv w) : ConnInv w' := by
  obtain ⟨added, hl, hn⟩ := c.log
  refine ⟨fun e he hc => ?_, fun sid => ?_⟩
  · rw [hl] at he
    rcases List.mem_append.mp he with h | h
    · rw [c.size id]; exact i.named e h hc
    · rw [hn e h] at hc; cases hc
  · rw [hl, connEntries_append, connEntries_none sid added hn]; simpa using i.once sid

/-- what `openSession` does to the log and the session table: one new record, whatever the open packets log (no
    `connection` entry), then the `connection` entry of the new session -/
theorem openSession_log (w : World) (ti proto : Nat) :
    (openSession w ti proto).socks.size = w.socks.size + 1 ∧
    ∃ pre e, (openSession w ti proto).slog = w.slog ++ pre ++ [(w.socks.size, e)] ∧ e.isConnection = true ∧
      ∀ x ∈ pre, x.2.isConnection = false := by
  unfold openSession
  dsimp only
  generalize hcore : ((({ w with socks := w.socks.push { proto, tr := ti } } : World).setTr ti
      fun t => { t with role := .current w.socks.size, owner := w.socks.size }).setSock w.socks.size fun s => { s with rs := .open_ }) = wc
  have hsz : wc.socks.size = w.socks.size + 1 := by rw [← hcore]; simp
  have hlg : wc.slog = w.slog := by rw [← hcore]; rfl
  have c := only_openPackets routine_noConn w.socks.size (w.tr ti).name (fun _ => rfl) (Only.refl wc)
  obtain ⟨pre, hpre, hn⟩ := c.log
  have hsz2 := c.size id
  generalize openPackets wc w.socks.size (w.tr ti).name = wp at hpre hsz2 ⊢
  unfold openAnnounce
  dsimp only
  refine ⟨?hs, pre, ?e, ?hl, ?he, hn⟩
  case hs => simp [hsz2, hsz]
  case hl =>
    rw [slog_sev]
    show wp.slog ++ _ = _
    rw [hpre, hlg]
  case he => rfl

theorem conn_openSession {w : World} (ti proto : Nat) (i : ConnInv w) : ConnInv (openSession w ti proto) := by
  obtain ⟨hsz, pre, e, hl, he, hn⟩ := openSession_log w ti proto
  refine ⟨fun x hx hc => ?_, fun sid => ?_⟩
  · rw [hl] at hx
    rw [hsz]
    rcases List.mem_append.mp hx with h | h
    · rcases List.mem_append.mp h with h | h
      · exact Nat.lt_succ_of_lt (i.named x h hc)
      · rw [hn x h] at hc; cases hc
    · have : x = (w.socks.size, e) := by simpa using h
      subst this; exact Nat.lt_succ_self _
  · rw [hl, connEntries_append, connEntries_append, connEntries_none sid pre hn]
    by_cases hs : sid = w.socks.size
    · subst hs
      have : connEntries w.socks.size w.slog = [] := by
        unfold connEntries
        apply List.filter_eq_nil_iff.mpr
        intro x hx hc
        have hc' : x.1 = w.socks.size ∧ x.2.isConnection = true := by simpa using hc
        have := i.named x hx hc'.2
        omega
      rw [this]
      simp [connEntries, he]
    · have : connEntries sid [(w.socks.size, e)] = [] := by
        unfold connEntries
        simp [Ne.symm hs]
      rw [this]; simpa using i.once sid

theorem step_conn (w : World) (op : Op) (i : ConnInv w) : ConnInv (step w op) := by
  have hT : ∀ p, Takes noConn.log p := fun _ => ⟨fun _ => ⟨rfl, rfl⟩, fun _ => rfl, fun _ _ => rfl, fun _ => rfl, fun _ => rfl⟩
  cases op with
  | hsPolling pr b j =>
    unfold step hsPolling
    refine ite_ind (fun _ => i) fun _ => ?_
    have h0 : Only noConn w ({ w with reqs := w.reqs.push { hasSid := false } } : World) := only_pushReq _ (Only.refl w)
    dsimp only
    refine ite_ind (fun _ => (only_rejectReq _ _ _ h0).conn i) fun _ => ite_ind (fun _ => (only_rejectReq _ _ _ h0).conn i) fun _ => ?_
    exact conn_openSession _ _ ((only_onPollRequest routine_noConn trivial _ _ (only_stir trivial _ h0)).conn i)
  | hsWebsocket pr b =>
    unfold step hsWebsocket
    refine ite_ind (fun _ => i) fun _ => ?_
    have h0 : Only noConn w ({ w with conns := w.conns.push {} } : World) := only_fields _ (Only.refl w)
    dsimp only
    refine ite_ind (fun _ => (only_setConn _ _ h0).conn i) fun _ => ite_ind (fun _ => (only_setConn _ _ (only_ev _ h0)).conn i) fun _ => ?_
    exact conn_openSession _ _ ((only_stir trivial _ h0).conn i)
  | hsWt =>
    unfold step hsWt
    have h0 : Only noConn w ({ w with conns := w.conns.push { wt := true } } : World) := only_fields _ (Only.refl w)
    exact ite_ind (fun _ => i) fun _ => conn_openSession _ _ ((only_stir trivial _ h0).conn i)
  | post sid bin decl body vj => exact (only_step routine_noConn w (.post sid bin decl body vj) ⟨fun _ => trivial, hT⟩).conn i
  | frame c m => exact (only_step routine_noConn w (.frame c m) hT).conn i
  | send sid m c cb pre => exact (only_step routine_noConn w (.send sid m c cb pre) fun _ _ => rfl).conn i
  | adv d => exact (only_step routine_noConn w (.adv d) ⟨trivial, fun _ => ⟨fun _ _ => rfl, fun _ _ _ => rfl⟩⟩).conn i
  | _ => exact (only_step routine_noConn w _ trivial).conn i

theorem conn_init (o : Opts) : ConnInv (init o) := ⟨fun _ h => (by cases h), fun _ => (by simp [connEntries, init])⟩

end EIO.Ses
