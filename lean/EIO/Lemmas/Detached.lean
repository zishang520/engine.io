import EIO.Lemmas.World
/-
Closing a transport nobody listens to (`role = none`), without a close callback: `clearTransport` and a failed upgrade
candidate do exactly this. `Detached ti w w'` says what such a close can change — of the transports only `ti`, and not
its role; requests, writer tasks, connections and the printed events — and, above all, what it cannot: no session, not
the session log, the registry, the clock or the options. Every invariant of the session model is carried over such a
close through this one relation.
-/
namespace EIO.Ses
open EIO EIO.Codec

def ReqsExt (w w' : World) : Prop :=
  w.reqs.size ≤ w'.reqs.size ∧
  ∀ r x, (w.reqs.getD r default).resp = some x → (w'.reqs.getD r default).resp = some x

theorem ReqsExt.refl (w : World) : ReqsExt w w := ⟨Nat.le_refl _, fun _ _ h => h⟩
theorem ReqsExt.trans {a b c : World} (h1 : ReqsExt a b) (h2 : ReqsExt b c) : ReqsExt a c :=
  ⟨Nat.le_trans h1.1 h2.1, fun r x h => h2.2 r x (h1.2 r x h)⟩

theorem reqsExt_answer (w : World) (r : Nat) (resp : Resp) : ReqsExt w (w.answer r resp) := by
  unfold World.answer; split
  · exact ReqsExt.refl w
  · rename_i hn
    refine ⟨by unfold World.setReq; simp, fun r' x hx => ?_⟩
    rw [req_setReq]; split
    · rename_i hc
      rw [← hc.1] at hx
      rw [show (w.reqs.getD r default).resp = some x from hx] at hn
      exact absurd rfl hn
    · exact hx

structure Detached (ti : Nat) (w w' : World) : Prop where
  socks : w'.socks = w.socks
  slog : w'.slog = w.slog
  registry : w'.registry = w.registry
  now : w'.now = w.now
  o : w'.o = w.o
  fault : w'.fault = w.fault
  reqs : ReqsExt w w'
  size : w'.trs.size = w.trs.size
  other : ∀ j, j ≠ ti → w'.tr j = w.tr j
  role : (w'.tr ti).role = (w.tr ti).role
  /-- once the close callback is gone it stays gone -/
  nofn : (w.tr ti).closeFn = none → (w'.tr ti).closeFn = none

variable {ti : Nat} {w0 w : World}

theorem Detached.refl (ti : Nat) (w : World) : Detached ti w w :=
  ⟨rfl, rfl, rfl, rfl, rfl, rfl, ReqsExt.refl w, rfl, fun _ _ => rfl, rfl, id⟩

theorem Detached.sock {w' : World} (d : Detached ti w w') (j : Nat) : w'.sock j = w.sock j := by
  unfold World.sock; rw [d.socks]

theorem Detached.trans {a b c : World} (h1 : Detached ti a b) (h2 : Detached ti b c) : Detached ti a c :=
  ⟨h2.socks.trans h1.socks, h2.slog.trans h1.slog, h2.registry.trans h1.registry, h2.now.trans h1.now, h2.o.trans h1.o,
   h2.fault.trans h1.fault, h1.reqs.trans h2.reqs, h2.size.trans h1.size, fun j hj => (h2.other j hj).trans (h1.other j hj),
   h2.role.trans h1.role, fun h => h2.nofn (h1.nofn h)⟩

theorem det_setTr (f : Tr → Tr) (hr : ∀ t, (f t).role = t.role) (hfn : ∀ t, t.closeFn = none → (f t).closeFn = none)
    (h : Detached ti w0 w) : Detached ti w0 (w.setTr ti f) := by
  refine h.trans ⟨rfl, rfl, rfl, rfl, rfl, rfl, ReqsExt.refl _, trs_size_setTr w ti f, fun j hj => ?_, ?_, ?_⟩
  · rw [tr_setTr, if_neg (fun hc => hj hc.1.symm)]
  all_goals rw [tr_setTr]; split
  · exact hr _
  · rfl
  · exact hfn _
  · exact id

theorem det_setConn (c : Nat) (f : Conn → Conn) (h : Detached ti w0 w) : Detached ti w0 (w.setConn c f) :=
  h.trans ⟨rfl, rfl, rfl, rfl, rfl, rfl, ReqsExt.refl _, rfl, fun _ _ => rfl, rfl, id⟩

theorem det_trSend (b : List Pkt) (h : Detached ti w0 w) : Detached ti w0 (trSend w ti b) :=
  (det_setTr (fun t => { t with writable := false }) (fun _ => rfl) (fun _ h => h) h).trans
    ⟨rfl, rfl, rfl, rfl, rfl, rfl, ReqsExt.refl _, rfl, fun _ _ => rfl, rfl, id⟩

theorem det_abortData (d : Option Nat) (h : Detached ti w0 w) : Detached ti w0 (abortData w d) := by
  refine h.trans ?_
  unfold abortData; split
  · refine ⟨?_, ?_, ?_, ?_, ?_, ?_, reqsExt_answer _ _ _, ?_, fun j _ => tr_answer _ _ _ j, by rw [tr_answer], by rw [tr_answer]; exact id⟩
    all_goals unfold World.answer; split <;> rfl
  · exact Detached.refl ti w

theorem trEmitClose_detached (f : Nat) (w : World) (ti : Nat) (h : (w.tr ti).role = .none) : trEmitClose f w ti = w := by
  cases f with
  | zero => rw [trEmitClose]
  | succ f => rw [trEmitClose, h]

theorem det_runCloseFnF (f : Nat) (hfn : (w.tr ti).closeFn = none) (h : Detached ti w0 w) :
    Detached ti w0 (runCloseFnF f w ti) := by
  cases f with
  | zero => rw [runCloseFnF]; exact h
  | succ f => rw [runCloseFnF, hfn]; exact det_setTr _ (fun _ => rfl) (fun _ _ => rfl) h

/-- `MaybeUpgrade`'s cleanup takes the listeners off the candidate's transport -/
theorem candCleanup_role {w : World} {sid : Nat} {c : Cand} (hc : (w.sock sid).cand = some c) :
    ((candCleanup w sid).tr c.tr).role = .none := by
  unfold candCleanup; rw [hc]
  exact tr_setTr_role_none _ _ _ fun _ => rfl

/- From here on `hr` is the first explicit argument of every lemma: the transport had no listeners at the start. -/
variable (hr : (w0.tr ti).role = .none)
include hr

theorem det_trOnCloseBaseF (f : Nat) (h : Detached ti w0 w) : Detached ti w0 (trOnCloseBaseF f w ti) := by
  cases f with
  | zero => rw [trOnCloseBaseF]; exact h
  | succ f =>
    rw [trOnCloseBaseF]; split
    · exact h
    · have h1 := det_setTr (fun t => { t with rs := .closed }) (fun _ => rfl) (fun _ h => h) h
      rw [trEmitClose_detached _ _ _ (h1.role.trans hr)]; exact h1

theorem det_pollOnCloseF (f : Nat) (h : Detached ti w0 w) : Detached ti w0 (pollOnCloseF f w ti) := by
  cases f with
  | zero => rw [pollOnCloseF]; exact h
  | succ f =>
    rw [pollOnCloseF]
    refine det_trOnCloseBaseF hr f ?_
    split
    · exact det_trSend _ h
    · exact h

theorem det_wsCloseNowF (f : Nat) (hfn : (w.tr ti).closeFn = none) (h : Detached ti w0 w) :
    Detached ti w0 (wsCloseNowF f w ti) := by
  cases f with
  | zero => rw [wsCloseNowF]; exact h
  | succ f =>
    rw [wsCloseNowF]
    have h1 : Detached ti w (w.setTr ti fun t => { t with closeWait := false, closeTimerDue := none }) :=
      det_setTr _ (fun _ => rfl) (fun _ h => h) (Detached.refl ti w)
    exact det_trOnCloseBaseF hr f (det_setConn _ _ (det_runCloseFnF f (h1.nofn hfn) (h.trans h1)))

theorem det_trCloseF (f : Nat) (h : Detached ti w0 w) : Detached ti w0 (trCloseF f w ti none) := by
  cases f with
  | zero => rw [trCloseF]; exact h
  | succ f =>
    rw [trCloseF]
    refine ite_ind (fun _ => h) fun _ => ?_
    have h1 : Detached ti w0 (w.setTr ti fun t => { t with rs := .closing, closeFn := none }) :=
      det_setTr _ (fun _ => rfl) (fun _ _ => rfl) h
    have hfn1 : ((w.setTr ti fun t => { t with rs := .closing, closeFn := none }).tr ti).closeFn = none := by
      rw [tr_setTr]; split
      · rfl
      · rename_i hn
        rw [tr_oob w ti (Nat.le_of_not_lt fun hlt => hn ⟨rfl, hlt⟩)]; rfl
    generalize w.setTr ti _ = w1 at h1 hfn1
    refine ite_ind (fun _ => ?_) fun _ => ite_ind (fun _ => det_wsCloseNowF hr f hfn1 h1) fun _ =>
      det_setTr _ (fun _ => rfl) (fun _ h => h) h1
    have h2 := det_abortData (w.tr ti).dataReq (Detached.refl ti w1)
    generalize abortData w1 _ = w2 at h2
    refine ite_ind (fun _ => ?_) fun _ => ite_ind (fun _ => det_pollOnCloseF hr f (det_runCloseFnF f (h2.nofn hfn1) (h1.trans h2)))
      fun _ => det_setTr _ (fun _ => rfl) (fun _ h => h) (h1.trans h2)
    have h3 := det_trSend [{ typ := .close }] (Detached.refl ti w2)
    exact det_pollOnCloseF hr f (det_runCloseFnF f (h3.nofn (h2.nofn hfn1)) ((h1.trans h2).trans h3))

end EIO.Ses
