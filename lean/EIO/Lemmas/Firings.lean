import EIO.Lemmas.Only
/-
The timers an advance of the clock fires (`advFirings`): each was pending, due by the target, and is fired with the
clock at or after its due instant.
-/
namespace EIO.Ses
open EIO EIO.Codec

theorem earliest_some (l : List (Nat × TimerId)) (t : Nat) (r : Nat × TimerId) (h : earliest l t = some r) : r ∈ l ∧ r.1 ≤ t := by
  unfold earliest at h
  have gen : ∀ (l : List (Nat × TimerId)) (best : Option (Nat × TimerId)) (r : Nat × TimerId),
      l.foldl (fun best x => if x.1 ≤ t then
        match best with
        | some b => if x.1 < b.1 then some x else best
        | none => some x
      else best) best = some r → (r ∈ l ∧ r.1 ≤ t) ∨ best = some r := by
    intro l
    induction l with
    | nil => intro best r h; exact Or.inr h
    | cons a rest ih =>
      intro best r h
      simp only [List.foldl_cons] at h
      rcases ih _ _ h with h1 | h1
      · exact Or.inl ⟨List.mem_cons_of_mem _ h1.1, h1.2⟩
      · split at h1
        · rename_i hle
          split at h1
          · split at h1
            · cases h1; exact Or.inl ⟨List.mem_cons_self, hle⟩
            · exact Or.inr h1
          · cases h1; exact Or.inl ⟨List.mem_cons_self, hle⟩
        · exact Or.inr h1
  rcases gen l none r h with h1 | h1
  · exact h1
  · cases h1

theorem earliest_spec (l : List (Nat × TimerId)) (target : Nat) (d : Nat) (id : TimerId)
    (h : earliest l target = some (d, id)) : (d, id) ∈ l ∧ d ≤ target := earliest_some l target (d, id) h

theorem mem_dueTimers_ses {w : World} {d : Nat} {id : TimerId} (h : (d, id) ∈ dueTimers w) :
    (∀ sid, id = .pingInterval sid → (w.sock sid).pingIntervalDue = some d) ∧
    (∀ sid, id = .pingTimeout sid → (w.sock sid).pingTimeoutDue = some d) := by
  unfold dueTimers at h
  simp only [List.mem_append, List.mem_flatMap, List.mem_range] at h
  rcases h with ⟨i, hi, (h | h) | h⟩ | ⟨i, hi, h⟩
  · split at h
    · rename_i d' hd
      cases List.mem_singleton.mp h
      exact ⟨fun _ hs => by cases hs; exact hd, nofun⟩
    · cases h
  · split at h
    · rename_i d' hd
      cases List.mem_singleton.mp h
      exact ⟨nofun, fun _ hs => by cases hs; exact hd⟩
    · cases h
  · split at h
    · rcases List.mem_append.mp h with h | h <;> split at h
      all_goals first | (cases List.mem_singleton.mp h; exact ⟨nofun, nofun⟩) | cases h
    · cases h
  · split at h
    · cases List.mem_singleton.mp h; exact ⟨nofun, nofun⟩
    · cases h

/-- every timer `advance` fires was pending and due by the target, and is fired with the clock at or after its
    due instant (exactly at it unless the clock had already passed it) -/
theorem advFirings_due (f : Nat) : ∀ (w : World) (target : Nat), ∀ x ∈ advFirings f w target,
    x.1 ≤ target ∧ x.1 ≤ x.2.2.now := by
  induction f with
  | zero => intro w target x hx; simp [advFirings] at hx
  | succ f ih =>
    intro w target x hx
    rw [advFirings] at hx
    cases he : earliest (dueTimers w) target with
    | none => rw [he] at hx; simp at hx
    | some r =>
      obtain ⟨d, id⟩ := r
      rw [he] at hx; simp only at hx
      rcases List.mem_cons.1 hx with h | h
      · subst h
        exact ⟨(earliest_spec _ _ _ _ he).2, Nat.le_max_right _ _⟩
      · exact ih _ _ x h

theorem advFirings_head_pending (f : Nat) (w : World) (target : Nat) (d : Nat) (id : TimerId) (w' : World)
    (rest : List (Nat × TimerId × World)) (h : advFirings f w target = (d, id, w') :: rest) :
    (d, id) ∈ dueTimers w ∧ w' = { w with now := max w.now d } := by
  cases f with
  | zero => simp [advFirings] at h
  | succ f =>
    rw [advFirings] at h
    cases he : earliest (dueTimers w) target with
    | none => rw [he] at h; simp at h
    | some r =>
      obtain ⟨d0, id0⟩ := r
      rw [he] at h; simp only [List.cons.injEq, Prod.mk.injEq] at h
      obtain ⟨⟨rfl, rfl, rfl⟩, _⟩ := h
      exact ⟨(earliest_spec _ _ _ _ he).1, rfl⟩

end EIO.Ses
