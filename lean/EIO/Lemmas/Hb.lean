import EIO.Lemmas.World
/-
The heartbeat timers of a session, as a condition on every world (`HB`):

  a closed session has no heartbeat timer;
  an announced session that is not closed and has never been upgraded has one pending
  (the upgrade cancels a pending deadline: sessions that have been upgraded are left out);
  no pending ping is further away than the ping interval, no deadline further than interval + timeout.

The condition reads five fields of a session record (state, announced, upgraded, the two timers), the clock and the
options. Here: the condition of one session (`HBS`) under the updates the model makes to these fields, the exception
`HBX` opens in a timer callback, and `Beats w w'`, the relation between an earlier and a later world that carries the
condition. `Only` (Lemmas/Only.lean) takes `Beats` through every function of the model that does not move the clock.
-/
namespace EIO.Ses
open EIO EIO.Codec

/-- the heartbeat condition of one session at instant `now`; `lax` waives the pending timer -/
structure HBS (lax : Prop) (o : Opts) (now : Nat) (s : Sock) : Prop where
  closed : s.rs = .closed → s.pingIntervalDue = none ∧ s.pingTimeoutDue = none
  pending : ¬ lax → s.announced = true → s.rs ≠ .closed → s.upgraded = false → s.pingIntervalDue.isSome ∨ s.pingTimeoutDue.isSome
  pingBound : ∀ d, s.pingIntervalDue = some d → d ≤ now + o.I
  deadBound : ∀ d, s.pingTimeoutDue = some d → d ≤ now + o.I + o.T

/-- `x`: the one session whose timers are being re-armed right now (between the two updates of a timer callback).
    `n` names the clock, so that `HBX n x w → HBX n x (f w)` also says that `f` leaves the clock alone. -/
def HBX (n : Nat) (x : Option Nat) (w : World) : Prop := w.now = n ∧ ∀ sid, HBS (x = some sid) w.o w.now (w.sock sid)

/-- the heartbeat condition of every session -/
def HB (w : World) : Prop := ∀ sid, HBS False w.o w.now (w.sock sid)

section
variable {lax : Prop} {o : Opts} {now : Nat} {s : Sock}

theorem HBS.relax {lax' : Prop} (h : HBS lax o now s) (imp : lax → lax') : HBS lax' o now s :=
  ⟨h.closed, fun hl => h.pending (fun l => hl (imp l)), h.pingBound, h.deadBound⟩

theorem HBS.same {s' : Sock} (h : HBS lax o now s) (hrs : s'.rs = s.rs) (ha : s'.announced = s.announced)
    (hu : s'.upgraded = s.upgraded) (hpi : s'.pingIntervalDue = s.pingIntervalDue)
    (hpt : s'.pingTimeoutDue = s.pingTimeoutDue) : HBS lax o now s' := by
  refine ⟨fun hc => ?_, fun hl a b c => ?_, fun d hd => h.pingBound d (hpi ▸ hd), fun d hd => h.deadBound d (hpt ▸ hd)⟩
  · rw [hpi, hpt]; exact h.closed (hrs ▸ hc)
  · rw [hpi, hpt]; exact h.pending hl (ha ▸ a) (hrs ▸ b) (hu ▸ c)

theorem HBS.fresh (hr : s.rs ≠ .closed) (ha : s.announced = false) (hpi : s.pingIntervalDue = none)
    (hpt : s.pingTimeoutDue = none) : HBS lax o now s :=
  ⟨fun hc => absurd hc hr, fun _ a => (nomatch ha.symm.trans a), fun _ hd => (nomatch hpi.symm.trans hd),
   fun _ hd => (nomatch hpt.symm.trans hd)⟩

theorem HBS.mono {now' : Nat} (h : HBS lax o now s) (hle : now ≤ now') : HBS lax o now' s :=
  ⟨h.closed, h.pending, fun d hd => Nat.le_trans (h.pingBound d hd) (Nat.add_le_add_right hle _),
   fun d hd => Nat.le_trans (h.deadBound d hd) (Nat.add_le_add_right (Nat.add_le_add_right hle _) _)⟩

theorem HBS.setPing {d : Nat} (h : HBS lax o now s) (hr : s.rs ≠ .closed) (hd : d ≤ now + o.I) :
    HBS lax o now { s with pingIntervalDue := some d } :=
  ⟨fun hc => absurd hc hr, fun _ _ _ _ => Or.inl rfl, fun _ e => Option.some.inj e ▸ hd, h.deadBound⟩

theorem HBS.setDeadline {d : Nat} (h : HBS lax o now s) (hr : s.rs ≠ .closed) (hd : d ≤ now + o.I + o.T) :
    HBS lax o now { s with pingTimeoutDue := some d } :=
  ⟨fun hc => absurd hc hr, fun _ _ _ _ => Or.inr rfl, h.pingBound, fun _ e => Option.some.inj e ▸ hd⟩

/-- the deadline is cancelled: a session that must have a timer still has its ping -/
theorem HBS.clearDeadline (h : HBS lax o now s)
    (hp : ¬ lax → s.announced = true → s.rs ≠ .closed → s.upgraded = false → s.pingIntervalDue.isSome) :
    HBS lax o now { s with pingTimeoutDue := none } :=
  ⟨fun hc => ⟨(h.closed hc).1, rfl⟩, fun hl a b c => Or.inl (hp hl a b c), h.pingBound, nofun⟩

end

variable {x : Option Nat} {n : Nat} {w : World}

theorem HB.toX (h : HB w) : HBX w.now x w := ⟨rfl, fun sid => (h sid).relax False.elim⟩
theorem HBX.toHB (h : HBX n none w) : HB w := fun sid => (h.2 sid).relax nofun
theorem HBX.weaken (h : HBX n none w) : HBX n x w := ⟨h.1, fun sid => (h.2 sid).relax nofun⟩

/-- the exception is over once the session's timers are consistent again -/
theorem HBX.settle {w : World} {sid : Nat} (h : HBX n (some sid) w)
    (hp : (w.sock sid).announced = true → (w.sock sid).rs ≠ .closed → (w.sock sid).upgraded = false →
      (w.sock sid).pingIntervalDue.isSome ∨ (w.sock sid).pingTimeoutDue.isSome) : HBX n none w := by
  refine ⟨h.1, fun j => ?_⟩
  by_cases e : j = sid
  · subst e
    exact ⟨(h.2 j).closed, fun _ => hp, (h.2 j).pingBound, (h.2 j).deadBound⟩
  · exact (h.2 j).relax (fun e2 => absurd (Option.some.inj e2).symm e)

theorem hb_setSock (sid : Nat) (f : Sock → Sock) (h : HBX n x w)
    (hf : sid < w.socks.size → HBS (x = some sid) w.o w.now (w.sock sid) → HBS (x = some sid) w.o w.now (f (w.sock sid))) :
    HBX n x (w.setSock sid f) := by
  refine ⟨h.1, fun j => ?_⟩
  show HBS (x = some j) w.o w.now ((w.setSock sid f).sock j)
  rw [sock_setSock]
  split
  · next e => cases e.1; exact hf e.2 (h.2 _)
  · exact h.2 j

theorem hb_now (m : Nat) (h : HBX n x w) (hle : w.now ≤ m) : HBX m x ({ w with now := m } : World) :=
  ⟨rfl, fun sid => (h.2 sid).mono hle⟩

/-- the clock stands still, the options stay, and the heartbeat condition of every session, if it held, still holds:
    with the pending timer waived or not, so that an exception of `HBX` is carried as well -/
structure Beats (w w' : World) : Prop where
  now : w'.now = w.now
  o : w'.o = w.o
  ses : ∀ sid lax, HBS lax w.o w.now (w.sock sid) → HBS lax w.o w.now (w'.sock sid)

theorem Beats.refl (w : World) : Beats w w := ⟨rfl, rfl, fun _ _ h => h⟩

theorem Beats.trans {a b c : World} (h1 : Beats a b) (h2 : Beats b c) : Beats a c :=
  ⟨h2.now.trans h1.now, h2.o.trans h1.o,
   fun sid lax h => h1.o ▸ h1.now ▸ h2.ses sid lax (h1.o.symm ▸ h1.now.symm ▸ h1.ses sid lax h)⟩

theorem Beats.hb {w' : World} (b : Beats w w') (h : HBX n x w) : HBX n x w' :=
  ⟨b.now.trans h.1, fun sid => b.o.symm ▸ b.now.symm ▸ b.ses sid _ (h.2 sid)⟩

theorem beats_fields (w w' : World) (hs : w'.socks = w.socks := by rfl) (hn : w'.now = w.now := by rfl)
    (ho : w'.o = w.o := by rfl) : Beats w w' :=
  ⟨hn, ho, fun sid _ h => by unfold World.sock; rw [hs]; exact h⟩

theorem beats_setSock (w : World) (sid : Nat) (f : Sock → Sock)
    (hf : ∀ lax, sid < w.socks.size → HBS lax w.o w.now (w.sock sid) → HBS lax w.o w.now (f (w.sock sid))) :
    Beats w (w.setSock sid f) := by
  refine ⟨rfl, rfl, fun j lax h => ?_⟩
  rw [sock_setSock]; split
  · next e => cases e.1; exact hf lax e.2 h
  · exact h

theorem beats_pushSock (w : World) (s : Sock) (hs : ∀ lax, HBS lax w.o w.now s) :
    Beats w ({ w with socks := w.socks.push s } : World) := by
  refine ⟨rfl, rfl, fun j lax h => ?_⟩
  show HBS _ w.o w.now ((w.socks.push s).getD j default)
  rcases Nat.lt_trichotomy j w.socks.size with hj | hj | hj
  · rw [getD_push_lt _ _ _ _ hj]; exact h
  · subst hj; rw [getD_push_eq]; exact hs lax
  · rw [getD_oob _ _ _ (by rw [Array.size_push]; omega), ← sock_oob w j (by omega)]; exact h

end EIO.Ses
