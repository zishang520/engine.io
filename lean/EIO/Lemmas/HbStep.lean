import EIO.Lemmas.SesOps
import EIO.Lemmas.Firings
/-
The heartbeat condition through every operation (`step_hb`). Every operation but the passing of time keeps it because
`Only` says so (`step_beats`). The clock: the callback of the ping timer cancels the ping, sends one, and only then arms
the deadline; during that send the session is the exception `x` of `HBX`. That the send does not close it is the one
place where the invariant `Inv` of the world is needed (`SockOK.dc`).
-/
namespace EIO.Ses
open EIO EIO.Codec

variable {x : Option Nat} {n : Nat} {w : World}

theorem mem_dueTimers_pingInterval (w : World) (d sid : Nat) (h : (d, TimerId.pingInterval sid) ∈ dueTimers w) :
    (w.sock sid).pingIntervalDue = some d := (mem_dueTimers_ses h).1 sid rfl

/-- sending does not close the session: only a close waiting for the drain could, and then the session is closing
    already and nothing is sent -/
theorem sendPacket_rs (w : World) (sid : Nat) (p : Pkt) (cb : Option Nat)
    (hdc : (w.sock sid).drainClose.isSome → (w.sock sid).rs = .closing ∨ (w.sock sid).rs = .closed) :
    ((sendPacket w sid p cb).sock sid).rs = (w.sock sid).rs := by
  cases hd : (w.sock sid).drainClose with
  | none => exact (sendPacket_quiet w sid p cb hd).rs sid
  | some d =>
    unfold sendPacket
    rw [if_pos]
    rcases hdc (by rw [hd]; rfl) with h | h
    · exact Or.inl h
    · exact Or.inr (Or.inl h)

/-- the ping timer: between cancelling it and arming the deadline the session has no timer -/
theorem hb_firePingInterval {d : Nat} (sid : Nat) (h : HBX n none w) (hpi : (w.sock sid).pingIntervalDue = some d)
    (hdc : (w.sock sid).drainClose.isSome → (w.sock sid).rs = .closing ∨ (w.sock sid).rs = .closed) :
    HBX n none (fireTimer w (.pingInterval sid)) := by
  rw [fireTimer]
  -- a session with a ping pending exists and is not closed
  have hlt : sid < w.socks.size := Nat.lt_of_not_le fun hle => by rw [sock_oob w sid hle] at hpi; cases hpi
  have hnc : (w.sock sid).rs ≠ .closed := fun hc => by rw [((h.2 sid).closed hc).1] at hpi; cases hpi
  generalize hw1 : w.setSock sid _ = w1
  have e1 : w1.sock sid = { w.sock sid with pingIntervalDue := none } := by subst w1; rw [sock_setSock, if_pos ⟨rfl, hlt⟩]
  have h1 : HBX n (some sid) w1 := by
    subst w1
    exact hb_setSock sid _ h.weaken fun _ hs => ⟨fun hc => ⟨rfl, (hs.closed hc).2⟩, fun hl => absurd rfl hl, nofun, hs.deadBound⟩
  have h2 := (only_sendPacket routine_still sid { typ := .ping, compress := true } none trivial (.refl w1)).toBeats.hb h1
  have e2 := sendPacket_rs w1 sid { typ := .ping, compress := true } none (by rw [e1]; exact hdc)
  generalize sendPacket w1 sid _ none = w2 at h2 e2 ⊢
  refine HBX.settle (hb_setSock sid _ h2 fun _ hs => hs.setDeadline (by rw [e2, e1]; exact hnc) ?_) fun a _ _ => Or.inr ?_
  · split <;> omega
  · have hlt2 : sid < w2.socks.size :=
      socks_size_setSock w2 sid _ ▸ Nat.lt_of_not_le fun hle => by rw [sock_oob _ sid hle] at a; cases a
    rw [sock_setSock, if_pos ⟨rfl, hlt2⟩]; rfl

/-- the deadline: between cancelling it and closing the session (if it is not closed yet) the session has no timer -/
theorem hb_firePingTimeout {d : Nat} (sid : Nat) (h : HBX n none w) (hpt : (w.sock sid).pingTimeoutDue = some d) :
    HBX n none (fireTimer w (.pingTimeout sid)) := by
  rw [fireTimer]
  have hlt : sid < w.socks.size := Nat.lt_of_not_le fun hle => by rw [sock_oob w sid hle] at hpt; cases hpt
  have h1 : HBX n (some sid) (w.setSock sid fun s => { s with pingTimeoutDue := none }) :=
    hb_setSock sid _ h.weaken fun _ hs => hs.clearDeadline fun hl => absurd rfl hl
  refine ite_ind (fun hc => h1.settle fun _ b _ => absurd hc b) fun hnc => ?_
  exact ((only_sockOnClose routine_still _ sid "ping_timeout" (fun _ => trivial) (.refl _)).toBeats.hb h1).settle fun _ b _ =>
    absurd (sockOnClose_closed 11 _ sid _ hnc (socks_size_setSock w sid _ ▸ hlt)) b

/-- a timer that is not a heartbeat timer -/
theorem hb_fireOther (t : TimerId) (hid : ∀ s, t ≠ .pingInterval s ∧ t ≠ .pingTimeout s) (h : HBX n x w) :
    HBX n x (fireTimer w t) :=
  (only_fireTimer routine_still t ⟨fun s e => absurd e (hid s).1, fun s e => absurd e (hid s).2⟩
    (fun s e => e.elim (fun e => absurd e (hid s).1) fun e => absurd e (hid s).2) (.refl w)).toBeats.hb h

/-- `i` is needed for `SockOK.dc` alone: the ping of `hb_firePingInterval` must not close the session -/
theorem hb_fireTimer {d : Nat} {id : TimerId} (hm : (d, id) ∈ dueTimers w) (i : Inv w) (h : HBX n none w) :
    HBX n none (fireTimer w id) := by
  cases id with
  | pingInterval sid => exact hb_firePingInterval sid h (mem_dueTimers_pingInterval w d sid hm) (i.sockOK sid).dc
  | pingTimeout sid => exact hb_firePingTimeout sid h ((mem_dueTimers_ses hm).2 sid rfl)
  | closeTimer ti => exact hb_fireOther _ (fun _ => ⟨nofun, nofun⟩) h
  | upgradeTimeout sid => exact hb_fireOther _ (fun _ => ⟨nofun, nofun⟩) h
  | check sid => exact hb_fireOther _ (fun _ => ⟨nofun, nofun⟩) h

theorem hb_advance {w : World} (f target : Nat) (i : Inv w) (h : HBX n none w) (hle : w.now ≤ target) :
    HBX target none (advance f w target) := by
  induction f generalizing w n with
  | zero => exact hb_now target h hle
  | succ f ih =>
    rw [advance]
    split
    · rename_i d id he
      obtain ⟨hm, hd⟩ := earliest_some _ _ _ he
      have i1 : Inv ({ w with now := max w.now d } : World) := ((pr_fields _ (Pres.refl w)) i).1
      -- `hm` serves for the world with the clock moved: `dueTimers` does not read the clock
      have h1 := hb_fireTimer (w := { w with now := max w.now d }) hm i1 (hb_now _ h (Nat.le_max_left _ _))
      exact ih ((pr_fireTimer id (Pres.refl _)) i1).1 h1 (by rw [h1.1]; exact Nat.max_le.mpr ⟨hle, hd⟩)
    · exact hb_now target h hle

theorem step_hb (w : World) (op : Op) (i : Inv w) (h : HB w) : HB (step w op) := by
  cases op with
  | adv d =>
    unfold step
    exact ite_ind (fun _ => h) fun _ => (hb_advance _ _ i h.toX (Nat.le_add_right _ _)).toHB
  | _ => exact ((step_beats w _ fun _ e => by cases e).hb h.toX).toHB

theorem hb_init (o : Opts) : HB (init o) := fun sid => by
  rw [sock_oob _ _ (Nat.zero_le _)]; exact .fresh nofun rfl rfl rfl

end EIO.Ses
