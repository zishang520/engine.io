import EIO.Lemmas.Detached
/-
The linkage between sessions and transports:

  L1  a session that is not closed listens on its current transport, which exists
  L2  a closed transport has no listeners (it is detached)
  L3  the listeners of a transport that serves a session as current transport point back to that session, which is not closed
  L4  a candidate transport is the candidate of the session it names
  L5  a session's candidate transport carries that session's candidate listeners
  L6  a session that entertains a candidate is marked as upgrading

`LinkX x` allows one exception to L2: transport `x` may be closed while it still
has its listeners — the state in the middle of `transport.OnClose`, between the
store of "closed" and the "close" event.
-/
namespace EIO.Ses
open EIO EIO.Codec

structure LinkX (x : Option Nat) (w : World) : Prop where
  l1 : ∀ sid, sid < w.socks.size → (w.sock sid).rs ≠ .closed →
        (w.sock sid).tr < w.trs.size ∧ (w.tr (w.sock sid).tr).role = .current sid
  l2 : ∀ ti, (w.tr ti).rs = .closed → (w.tr ti).role = .none ∨ x = some ti
  l3 : ∀ ti sid, (w.tr ti).role = .current sid → (w.sock sid).tr = ti ∧ sid < w.socks.size ∧ (w.sock sid).rs ≠ .closed
  l4 : ∀ ti sid, (w.tr ti).role = .candidate sid → ∃ c, (w.sock sid).cand = some c ∧ c.tr = ti
  l5 : ∀ sid c, (w.sock sid).cand = some c → (w.tr c.tr).role = .candidate sid
  l6 : ∀ sid, (w.sock sid).cand.isSome → (w.sock sid).upgrading = true

abbrev Link (w : World) : Prop := LinkX none w

theorem Link.linkOK {w : World} (l : Link w) (sid : Nat) (hsz : sid < w.socks.size) (hnc : (w.sock sid).rs ≠ .closed) :
    (w.sock sid).tr < w.trs.size ∧ (w.tr (w.sock sid).tr).rs ≠ .closed := by
  obtain ⟨h1, h2⟩ := l.l1 sid hsz hnc
  refine ⟨h1, fun hc => ?_⟩
  rcases l.l2 _ hc with h | h
  · rw [h2] at h; cases h
  · cases h

theorem role_in_table (w : World) (ti : Nat) (h : (w.tr ti).role ≠ .none) : ti < w.trs.size := by
  apply Nat.lt_of_not_le; intro hle
  rw [tr_oob w ti hle] at h
  exact h rfl

/-- what the linkage reads of a session record is the same in `s'` as in `s`: whether it is closed, the upgrading mark,
    the transport, and the transport of the candidate -/
structure SameLinks (s s' : Sock) : Prop where
  closed : s'.rs = .closed ↔ s.rs = .closed
  upgrading : s'.upgrading = s.upgrading
  tr : s'.tr = s.tr
  cand : s'.cand.map (·.tr) = s.cand.map (·.tr)

/-- Of a transport the linkage reads the role, and whether it is closed. A world that agrees with a linked one on the
    sessions and the roles (its table of transports may be longer) is linked too, if its closed transports are
    accounted for. -/
theorem LinkX.transfer {x x' : Option Nat} {w w' : World} (l : LinkX x w)
    (ssize : w'.socks.size = w.socks.size) (size : w.trs.size ≤ w'.trs.size)
    (hs : ∀ j, SameLinks (w.sock j) (w'.sock j)) (role : ∀ t, (w'.tr t).role = (w.tr t).role)
    (h2 : ∀ t, (w'.tr t).rs = .closed → (w.tr t).role = .none ∨ x' = some t) : LinkX x' w' := by
  refine ⟨fun j hj hn => ?_, fun t hc => ?_, fun t j h => ?_, fun t j h => ?_, fun j c h => ?_, fun j h => ?_⟩
  · obtain ⟨a, b⟩ := l.l1 j (ssize ▸ hj) fun h => hn ((hs j).closed.mpr h)
    rw [(hs j).tr, role]; exact ⟨Nat.lt_of_lt_of_le a size, b⟩
  · rw [role]; exact h2 t hc
  · rw [role] at h
    obtain ⟨a, b, c⟩ := l.l3 t j h
    exact ⟨(hs j).tr.trans a, ssize ▸ b, fun hc => c ((hs j).closed.mp hc)⟩
  · rw [role] at h
    obtain ⟨c0, h0, e0⟩ := l.l4 t j h
    exact Option.map_eq_some_iff.mp (by rw [(hs j).cand, h0]; exact congrArg some e0)
  · obtain ⟨c0, h0, e0⟩ := Option.map_eq_some_iff.mp (((hs j).cand.symm.trans (congrArg _ h)) : _ = some c.tr)
    rw [role, ← e0]; exact l.l5 j c0 h0
  · rw [(hs j).upgrading]
    have e := congrArg Option.isSome (hs j).cand
    rw [Option.isSome_map, Option.isSome_map] at e
    exact l.l6 j (e ▸ h)

/-- `w'` differs from `w` in transports only: no role changed, and a transport that became closed had no listeners -/
structure TrOnly (w w' : World) : Prop where
  ssize : w'.socks.size = w.socks.size
  srs : ∀ j, (w'.sock j).rs = .closed ↔ (w.sock j).rs = .closed
  sup : ∀ j, (w'.sock j).upgrading = (w.sock j).upgrading
  str : ∀ j, (w'.sock j).tr = (w.sock j).tr
  scand : ∀ j, (w'.sock j).cand = (w.sock j).cand
  size : w'.trs.size = w.trs.size
  role : ∀ j, (w'.tr j).role = (w.tr j).role
  closed : ∀ j, (w'.tr j).rs = .closed → (w.tr j).rs = .closed ∨ (w.tr j).role = .none

theorem TrOnly.link {w w' : World} {x : Option Nat} (t : TrOnly w w') (l : LinkX x w) : LinkX x w' :=
  l.transfer t.ssize (Nat.le_of_eq t.size.symm) (fun j => ⟨t.srs j, t.sup j, t.str j, congrArg _ (t.scand j)⟩) t.role
    fun j hc => (t.closed j hc).elim (l.l2 j) Or.inl

section
variable {x : Option Nat} {w : World}

theorem lk_fields (w' : World) (l : LinkX x w) (h1 : w'.socks = w.socks := by rfl) (h2 : w'.trs = w.trs := by rfl) :
    LinkX x w' := by
  have hs : ∀ j, w'.sock j = w.sock j := fun j => by unfold World.sock; rw [h1]
  have ht : ∀ j, w'.tr j = w.tr j := fun j => by unfold World.tr; rw [h2]
  exact l.transfer (by rw [h1]) (by rw [h2]; exact Nat.le_refl _) (fun j => hs j ▸ ⟨Iff.rfl, rfl, rfl, rfl⟩)
    (fun t => by rw [ht]) fun t h => l.l2 t (ht t ▸ h)

theorem lk_ev (s : String) (l : LinkX x w) : LinkX x (w.ev s) := lk_fields _ l
theorem lk_setConn (i : Nat) (f : Conn → Conn) (l : LinkX x w) : LinkX x (w.setConn i f) := lk_fields _ l
theorem lk_setReq (i : Nat) (f : Req → Req) (l : LinkX x w) : LinkX x (w.setReq i f) := lk_fields _ l
theorem lk_sev (sid : Nat) (e : SEv) (l : LinkX x w) : LinkX x (w.sev sid e) :=
  lk_fields _ l (socks_sev w sid e) (trs_sev w sid e)
theorem lk_registry (r : List Nat) (l : LinkX x w) : LinkX x ({ w with registry := r } : World) := lk_fields _ l

theorem lk_setTr_of {x' : Option Nat} (i : Nat) (f : Tr → Tr) (hr : ∀ t, (f t).role = t.role) (l : LinkX x w)
    (h2 : ∀ t, ((w.setTr i f).tr t).rs = .closed → (w.tr t).role = .none ∨ x' = some t) : LinkX x' (w.setTr i f) :=
  l.transfer rfl (Nat.le_of_eq (trs_size_setTr w i f).symm) (fun _ => ⟨Iff.rfl, rfl, rfl, rfl⟩)
    (fun t => tr_setTr_of (·.role) w i t f hr) h2

theorem lk_setTr (i : Nat) (f : Tr → Tr) (l : LinkX x w) (hr : ∀ t, (f t).role = t.role := by intro _; rfl)
    (hc : ∀ t, (f t).rs = .closed → t.rs = .closed := by intro _ h; exact h) : LinkX x (w.setTr i f) :=
  lk_setTr_of i f hr l fun t h => by
    rw [tr_setTr] at h; split at h
    · exact l.l2 t (hc _ h)
    · exact l.l2 t h

theorem lk_setSock_at (sid : Nat) (f : Sock → Sock) (l : LinkX x w) (hf : SameLinks (w.sock sid) (f (w.sock sid))) :
    LinkX x (w.setSock sid f) :=
  l.transfer (socks_size_setSock w sid f) (Nat.le_refl _) (fun j => by
    rw [sock_setSock]; split
    · rename_i e; rw [← e.1]; exact hf
    · exact ⟨Iff.rfl, rfl, rfl, rfl⟩) (fun _ => rfl) l.l2

/-- The side condition is asked of every record, so that it is closed by `rfl` on a variable: on `w.sock sid`, with
    `w` the term of a function body, `rfl` unfolds the world. -/
theorem lk_setSock (sid : Nat) (f : Sock → Sock) (l : LinkX x w)
    (hf : ∀ s, SameLinks s (f s) := by intro _; exact ⟨Iff.rfl, rfl, rfl, rfl⟩) : LinkX x (w.setSock sid f) :=
  lk_setSock_at sid f l (hf _)

theorem lk_trSend (ti : Nat) (b : List Pkt) (l : LinkX x w) : LinkX x (trSend w ti b) :=
  lk_fields _ (lk_setTr ti (fun t => { t with writable := false }) l)

theorem lk_answer (r : Nat) (resp : Resp) (l : LinkX x w) : LinkX x (w.answer r resp) := by
  unfold World.answer
  exact ite_ind (fun _ => l) fun _ => lk_setReq _ _ (lk_ev _ l)

theorem lk_abortData {x : Option Nat} {w : World} (d : Option Nat) (l : LinkX x w) : LinkX x (abortData w d) := by
  unfold abortData; split
  · exact lk_answer _ _ l
  · exact l

end

theorem Detached.trOnly {ti : Nat} {w w' : World} (d : Detached ti w w') (hr : (w.tr ti).role = .none) : TrOnly w w' := by
  have hs := d.sock
  refine ⟨by rw [d.socks], fun j => by rw [hs], fun j => by rw [hs], fun j => by rw [hs], fun j => by rw [hs], d.size,
    fun j => ?_, fun j hc => ?_⟩
  · by_cases hj : j = ti
    · rw [hj]; exact d.role
    · rw [d.other j hj]
  · by_cases hj : j = ti
    · rw [hj]; exact Or.inr hr
    · rw [d.other j hj] at hc; exact Or.inl hc

/-- every transport but `ti` is what it was -/
def TrTouch (ti : Nat) (w w' : World) : Prop := ∀ j, j ≠ ti → w'.tr j = w.tr j

theorem TrTouch.trans {ti : Nat} {a b c : World} (h1 : TrTouch ti a b) (h2 : TrTouch ti b c) : TrTouch ti a c :=
  fun j hj => (h2 j hj).trans (h1 j hj)

theorem LinkX.weaken {w : World} (l : LinkX none w) (x : Option Nat) : LinkX x w :=
  ⟨l.l1, fun ti h => (l.l2 ti h).imp_right nofun, l.l3, l.l4, l.l5, l.l6⟩

theorem LinkX.settle {w : World} {t : Nat} (l : LinkX (some t) w) (h : (w.tr t).role = .none) : LinkX none w :=
  ⟨l.l1, fun ti hc => (l.l2 ti hc).elim Or.inl fun a => by cases a; exact Or.inl h, l.l3, l.l4, l.l5, l.l6⟩

theorem sock_exists_of_cand (w : World) (sid : Nat) (c : Cand) (h : (w.sock sid).cand = some c) : sid < w.socks.size := by
  apply Nat.lt_of_not_le; intro hle
  rw [sock_oob w sid hle] at h; cases h

/-- Transport `ti` loses the listeners of session `sid`, and the session its pointer to `ti`: either `ti` was the
    session's current transport and the session becomes closed (`socket.OnClose`), or it was its candidate and the
    session forgets the candidate (`MaybeUpgrade`'s cleanup). An exception for `ti` is over afterwards. -/
theorem link_detach (w : World) (x x' : Option Nat) (sid ti : Nat) (fs : Sock → Sock) (ft : Tr → Tr)
    (l : LinkX x w) (hsz : sid < w.socks.size) (hx : x = x' ∨ x = some ti)
    (hft : ∀ t, (ft t).role = .none ∧ (ft t).rs = t.rs)
    (hfs : ((w.tr ti).role = .current sid ∧ ∀ s, (fs s).rs = .closed ∧ (fs s).cand = s.cand ∧ (fs s).upgrading = s.upgrading) ∨
      ((w.tr ti).role = .candidate sid ∧ ∀ s, (fs s).rs = s.rs ∧ (fs s).tr = s.tr ∧ (fs s).cand = none)) :
    LinkX x' ((w.setSock sid fs).setTr ti ft) := by
  have hti : ti < w.trs.size := role_in_table w ti fun h => by rw [h] at hfs; exact hfs.elim (nomatch ·.1) (nomatch ·.1)
  generalize hw' : (w.setSock sid fs).setTr ti ft = w'
  have hs : ∀ j, j ≠ sid → w'.sock j = w.sock j := fun j hj => by
    rw [← hw', sock_setTr, sock_setSock, if_neg fun h => hj h.1.symm]
  have hss : w'.sock sid = fs (w.sock sid) := by rw [← hw', sock_setTr, sock_setSock, if_pos ⟨rfl, hsz⟩]
  have ht : ∀ t, t ≠ ti → w'.tr t = w.tr t := fun t h => by rw [← hw', tr_setTr, if_neg fun c => h c.1.symm, tr_setSock]
  have hti' : (w'.tr ti).role = .none := by rw [← hw', tr_setTr, if_pos ⟨rfl, hti⟩]; exact (hft _).1
  have hrs : ∀ t, (w'.tr t).rs = (w.tr t).rs := fun t => by
    rw [← hw', tr_setTr]; split
    · exact (hft _).2
    · rfl
  have hssz : w'.socks.size = w.socks.size := by rw [← hw']; exact socks_size_setSock w sid fs
  have htsz : w'.trs.size = w.trs.size := by rw [← hw']; exact trs_size_setTr _ ti ft
  -- a transport with other listeners than those of `ti` is another transport
  have hne : ∀ t, (w.tr t).role ≠ (w.tr ti).role → w'.tr t = w.tr t := fun t h => ht t fun e => h (e ▸ rfl)
  have hnot : ∀ t, (w'.tr t).role ≠ .none → t ≠ ti := fun t h e => h (e ▸ hti')
  have l2 : ∀ t, (w'.tr t).rs = .closed → (w'.tr t).role = .none ∨ x' = some t := fun t hc => by
    by_cases e : t = ti
    · rw [e]; exact Or.inl hti'
    · rw [hrs] at hc; rw [ht t e]
      refine (l.l2 t hc).imp_right fun a => ?_
      rcases hx with b | b
      · exact b ▸ a
      · rw [b] at a; cases a; exact absurd rfl e
  rcases hfs with ⟨hr, hf⟩ | ⟨hr, hf⟩
  · -- `sid` is closed now; every session has the candidate it had
    have hcand : ∀ j, (w'.sock j).cand = (w.sock j).cand ∧ (w'.sock j).upgrading = (w.sock j).upgrading := fun j => by
      by_cases e : j = sid
      · rw [e, hss]; exact (hf _).2
      · rw [hs j e]; exact ⟨rfl, rfl⟩
    refine ⟨fun j hj hn => ?_, l2, fun t j h => ?_, fun t j h => ?_, fun j c h => ?_, fun j h => ?_⟩
    · have e : j ≠ sid := fun e => hn (by rw [e, hss]; exact (hf _).1)
      rw [hs j e] at hn ⊢
      obtain ⟨a, b⟩ := l.l1 j (hssz ▸ hj) hn
      rw [htsz, hne _ (by rw [b, hr]; exact fun h => e (by cases h; rfl))]; exact ⟨a, b⟩
    · have e := hnot t (by rw [h]; nofun)
      rw [ht t e] at h
      obtain ⟨a, b, c⟩ := l.l3 t j h
      rw [hs j fun ej => e (by rw [← a, ej]; exact (l.l3 ti sid hr).1), hssz]; exact ⟨a, b, c⟩
    · rw [ht t (hnot t (by rw [h]; nofun))] at h
      rw [(hcand j).1]; exact l.l4 t j h
    · rw [(hcand j).1] at h
      rw [hne _ (by rw [l.l5 j c h, hr]; nofun)]; exact l.l5 j c h
    · rw [(hcand j).2]; exact l.l6 j ((hcand j).1 ▸ h)
  · -- `sid` has no candidate now; every session has the state and the transport it had
    have hkeep : ∀ j, (w'.sock j).rs = (w.sock j).rs ∧ (w'.sock j).tr = (w.sock j).tr := fun j => by
      by_cases e : j = sid
      · rw [e, hss]; exact ⟨(hf _).1, (hf _).2.1⟩
      · rw [hs j e]; exact ⟨rfl, rfl⟩
    have hcand : ∀ j c, (w'.sock j).cand = some c → j ≠ sid := fun j c h e => by rw [e, hss, (hf _).2.2] at h; cases h
    refine ⟨fun j hj hn => ?_, l2, fun t j h => ?_, fun t j h => ?_, fun j c h => ?_, fun j h => ?_⟩
    · rw [(hkeep j).1] at hn
      obtain ⟨a, b⟩ := l.l1 j (hssz ▸ hj) hn
      rw [(hkeep j).2, htsz, hne _ (by rw [b, hr]; nofun)]; exact ⟨a, b⟩
    · rw [ht t (hnot t (by rw [h]; nofun))] at h
      rw [(hkeep j).1, (hkeep j).2, hssz]; exact l.l3 t j h
    · have e := hnot t (by rw [h]; nofun)
      rw [ht t e] at h
      obtain ⟨c, hc, hct⟩ := l.l4 t j h
      obtain ⟨c', hc', hct'⟩ := l.l4 ti sid hr
      rw [hs j fun ej => e (by rw [ej, hc'] at hc; cases hc; exact hct.symm.trans hct')]; exact ⟨c, hc, hct⟩
    · have e := hcand j c h
      rw [hs j e] at h
      rw [hne _ (by rw [l.l5 j c h, hr]; exact fun h => e (by cases h; rfl))]; exact l.l5 j c h
    · obtain ⟨c, hc⟩ := Option.isSome_iff_exists.mp h
      rw [hs j (hcand j c hc)] at h ⊢; exact l.l6 j h

theorem lk_candCleanup {x : Option Nat} {w : World} (sid : Nat) (l : LinkX x w) : LinkX x (candCleanup w sid) := by
  unfold candCleanup; split
  · exact l
  · rename_i c hc
    exact link_detach w x x sid c.tr _ _ l (sock_exists_of_cand w sid c hc) (Or.inl rfl) (fun _ => ⟨rfl, rfl⟩)
      (Or.inr ⟨l.l5 sid c hc, fun _ => ⟨rfl, rfl, rfl⟩⟩)

theorem lk_closeDetached {x : Option Nat} {w : World} {ti : Nat} (hr : (w.tr ti).role = .none) (f : Nat) (l : LinkX x w) :
    LinkX x (trCloseF f w ti none) :=
  ((det_trCloseF hr f (Detached.refl ti w)).trOnly hr).link l

theorem lk_candFail {x : Option Nat} {w : World} (f : Nat) (sid : Nat) (l : LinkX x w) : LinkX x (candFail f w sid) := by
  cases f with
  | zero => rw [candFail]; exact lk_candCleanup sid l
  | succ f =>
    rw [candFail]; split
    · exact l
    · rename_i c hc
      exact lk_closeDetached (candCleanup_role hc) f (lk_candCleanup sid l)

theorem candFail_role (f : Nat) (w : World) (sid : Nat) (c : Cand) (hc : (w.sock sid).cand = some c) :
    ((candFail f w sid).tr c.tr).role = .none := by
  cases f with
  | zero => rw [candFail]; exact candCleanup_role hc
  | succ f =>
    rw [candFail, hc]
    exact (det_trCloseF (candCleanup_role hc) f (Detached.refl c.tr _)).role.trans (candCleanup_role hc)

/-- `socket.OnClose` of a live session: afterwards nothing listens for it any more. If a transport was
    closed with listeners still on it (the caller is that transport's own close event), it was this session's. -/
theorem lk_sockOnClose_live (f : Nat) (w : World) (sid : Nat) (reason : String) (x : Option Nat)
    (l : LinkX x w) (hx : x = none ∨ x = some (w.sock sid).tr)
    (hnc : (w.sock sid).rs ≠ .closed) (hsz : sid < w.socks.size) :
    LinkX none (sockOnClose (f + 2) w sid reason) := by
  rw [sockOnClose, if_neg fun h => h.elim hnc (Nat.not_le_of_lt hsz)]
  dsimp only
  refine lk_setSock _ _ (lk_candFail _ _ (lk_sev _ _ (lk_registry _ ?_)))
  rw [clearTransportF]
  refine lk_setSock _ _ (lk_closeDetached (tr_setTr_role_none _ _ _ fun _ => rfl) f ?_)
  -- the session that has just been closed still names its transport
  generalize hti : ((World.setSock w sid _).sock sid).tr = ti
  obtain rfl : ti = (w.sock sid).tr := by rw [← hti, sock_setSock]; split <;> rfl
  exact link_detach w x none sid _ _ _ l hsz hx (fun _ => ⟨rfl, rfl⟩)
    (Or.inl ⟨(l.l1 sid hsz hnc).2, fun _ => ⟨rfl, rfl, rfl⟩⟩)

theorem lk_sockOnClose {w : World} (f : Nat) (sid : Nat) (reason : String) (l : Link w) :
    Link (sockOnClose (f + 2) w sid reason) := by
  by_cases hg : (w.sock sid).rs = .closed ∨ w.socks.size ≤ sid
  · rw [sockOnClose, if_pos hg]; exact l
  · exact lk_sockOnClose_live f w sid reason none l (Or.inl rfl) (fun h => hg (Or.inl h)) (Nat.lt_of_not_le fun h => hg (Or.inr h))

/- The close paths of a transport that still has its listeners. Fuel that runs out half-way leaves a session closed
with its transport still listening, so these hold only from the fuel each path needs (`f + k`); `closeFuel` is more
than any of them asks for. -/

/-- marking a transport closed: the one moment at which a closed transport still has listeners -/
theorem link_mark_closed (w : World) (ti : Nat) (l : LinkX none w) :
    LinkX (some ti) (w.setTr ti fun t => { t with rs := .closed }) :=
  lk_setTr_of ti _ (fun _ => rfl) l fun t h => by
    by_cases e : ti = t
    · exact Or.inr (e ▸ rfl)
    · rw [tr_setTr, if_neg fun c => e c.1] at h
      exact (l.l2 t h).imp id nofun

theorem lk_trEmitClose {w : World} (f ti : Nat) (l : LinkX (some ti) w) : LinkX none (trEmitClose (f + 3) w ti) := by
  rw [trEmitClose]; split
  · rename_i sid hr
    obtain ⟨a, b, c⟩ := l.l3 ti sid hr
    exact lk_sockOnClose_live f w sid _ (some ti) l (Or.inr (by rw [a])) c b
  · rename_i sid hr
    obtain ⟨c, hc, hct⟩ := l.l4 ti sid hr
    exact (lk_candFail _ sid l).settle (hct ▸ candFail_role _ w sid c hc)
  · rename_i hr
    exact l.settle hr

theorem lk_trOnErrorF {w : World} (f ti : Nat) (l : Link w) : Link (trOnErrorF (f + 3) w ti) := by
  rw [trOnErrorF]; split
  · exact lk_sockOnClose f _ _ l
  · exact lk_candFail _ _ l
  · exact l

theorem lk_trOnCloseBaseF {w : World} (f ti : Nat) (l : Link w) : Link (trOnCloseBaseF (f + 4) w ti) := by
  rw [trOnCloseBaseF]
  exact ite_ind (fun _ => l) fun _ => lk_trEmitClose f ti (link_mark_closed w ti l)

theorem lk_pollOnCloseF {w : World} (f ti : Nat) (l : Link w) : Link (pollOnCloseF (f + 5) w ti) := by
  rw [pollOnCloseF]
  exact lk_trOnCloseBaseF f ti (ite_ind (fun _ => lk_trSend _ _ l) fun _ => l)

theorem lk_runCloseFnF {w : World} (f ti : Nat) (l : Link w) : Link (runCloseFnF (f + 3) w ti) := by
  rw [runCloseFnF]
  have l1 : Link (w.setTr ti fun t => { t with closeFn := none }) := lk_setTr _ _ l
  split
  · exact lk_sockOnClose f _ _ l1
  · exact l1

theorem lk_wsCloseNowF {w : World} (f ti : Nat) (l : Link w) : Link (wsCloseNowF (f + 5) w ti) := by
  rw [wsCloseNowF]
  exact lk_trOnCloseBaseF f ti (lk_setConn _ _ (lk_runCloseFnF (f + 1) ti (lk_setTr _ _ l)))

theorem lk_trCloseF {w : World} (f ti : Nat) (fn : Option Nat) (l : Link w) : Link (trCloseF (f + 6) w ti fn) := by
  rw [trCloseF]
  refine ite_ind (fun _ => l) fun _ => ?_
  have l1 : Link (w.setTr ti fun t => { t with rs := .closing, closeFn := fn }) :=
    lk_setTr _ _ l (fun _ => rfl) (fun _ h => nomatch h)
  refine ite_ind (fun _ => ?_) fun _ => ite_ind (fun _ => lk_wsCloseNowF f ti l1) fun _ => lk_setTr _ _ l1
  have l2 := lk_abortData (w.tr ti).dataReq l1
  exact ite_ind (fun _ => lk_pollOnCloseF f ti (lk_runCloseFnF (f + 2) ti (lk_trSend _ _ l2))) fun _ =>
    ite_ind (fun _ => lk_pollOnCloseF f ti (lk_runCloseFnF (f + 2) ti l2)) fun _ => lk_setTr _ _ l2

/- The entry points run at `closeFuel = 12`; the numerals are `12 - k` for the `f + k` of each statement. -/
theorem lk_trOnError {w : World} (ti : Nat) (l : Link w) : Link (trOnError w ti) := lk_trOnErrorF 9 ti l
theorem lk_trOnCloseBase {w : World} (ti : Nat) (l : Link w) : Link (trOnCloseBase w ti) := lk_trOnCloseBaseF 8 ti l
theorem lk_pollOnClose {w : World} (ti : Nat) (l : Link w) : Link (pollOnClose w ti) := lk_pollOnCloseF 7 ti l
theorem lk_runCloseFn {w : World} (ti : Nat) (l : Link w) : Link (runCloseFn w ti) := lk_runCloseFnF 9 ti l
theorem lk_wsCloseNow {w : World} (ti : Nat) (l : Link w) : Link (wsCloseNow w ti) := lk_wsCloseNowF 7 ti l
theorem lk_trClose {w : World} (ti : Nat) (fn : Option Nat) (l : Link w) : Link (trClose w ti fn) := lk_trCloseF 6 ti fn l

end EIO.Ses
