import EIO.Lemmas.Link
import EIO.Lemmas.SesStep
/-
The linkage `Link` through what a session does with its transport: closing it, flushing and sending, the drain and
ready events, and the switch to an upgrade candidate.
-/
namespace EIO.Ses
open EIO EIO.Codec

section
variable {w : World}

theorem lk_closeTransportF (f : Nat) (sid : Nat) (d : Bool) (l : Link w) : Link (closeTransportF f w sid d) := by
  cases f with
  | zero => rw [closeTransportF]; exact l
  | succ f =>
    rw [closeTransportF]
    have l1 : Link (if d = true then w.setTr (w.sock sid).tr fun t => { t with discarded := true } else w) :=
      ite_ind (fun _ => lk_setTr _ _ l) fun _ => l
    exact ite_ind (fun _ => lk_sockOnClose 10 _ _ l1) fun _ => lk_trClose _ _ l1

theorem lk_flushF (f : Nat) (sid : Nat) (l : Link w) : Link (flushF f w sid) := by
  cases f with
  | zero => rw [flushF]; exact l
  | succ f =>
    rw [flushF]
    refine ite_ind (fun _ => l) fun _ => lk_ev _ ?_
    generalize hd : World.sev _ sid SEv.drain = wd
    have l1 : Link wd := hd ▸ lk_sev _ _ (lk_trSend _ _ (lk_ev _ (lk_sev _ _ (lk_setSock _ _ l))))
    split
    · exact lk_closeTransportF _ _ _ (lk_setSock _ _ l1)
    · exact l1

theorem lk_flush (sid : Nat) (l : Link w) : Link (flush w sid) := lk_flushF _ sid l
theorem lk_closeTransport (sid : Nat) (d : Bool) (l : Link w) : Link (closeTransport w sid d) := lk_closeTransportF _ sid d l

theorem lk_sendPacket (sid : Nat) (p : Pkt) (cb : Option Nat) (l : Link w) : Link (sendPacket w sid p cb) := by
  unfold sendPacket
  exact ite_ind (fun _ => l) fun _ => lk_flush _ (lk_setSock _ _ (lk_sev _ _ l))

theorem lk_sockOnDrain (sid : Nat) (l : Link w) : Link (sockOnDrain w sid) := by
  unfold sockOnDrain; split
  · exact l
  · exact foldl_ind (fun _ _ l => lk_sev _ _ l) (lk_setSock _ _ l)

theorem lk_trEmitDrain (ti : Nat) (l : Link w) : Link (trEmitDrain w ti) := by
  unfold trEmitDrain
  have l1 : Link (match (w.tr ti).role with | .current sid => sockOnDrain w sid | _ => w) := by
    split
    · exact lk_sockOnDrain _ l
    · exact l
  exact ite_ind (fun _ => lk_wsCloseNow _ l1) fun _ => l1

theorem lk_trEmitReady (ti : Nat) (l : Link w) : Link (trEmitReady w ti) := by
  unfold trEmitReady; split
  · exact lk_flush _ l
  · exact l

end

theorem lk_setCandTimers {x : Option Nat} {w : World} (sid : Nat) (c c' : Cand) (hc : (w.sock sid).cand = some c)
    (htr : c'.tr = c.tr) (l : LinkX x w) : LinkX x (w.setSock sid fun s => { s with cand := some c' }) :=
  lk_setSock_at sid _ l ⟨Iff.rfl, rfl, rfl, by rw [hc]; exact congrArg some htr⟩

/-- the switch of a session from its current transport `old` to the transport `new` that has just stopped
    being its candidate: what the worlds before and after must have in common -/
theorem link_switch_core (w w' : World) (sid new : Nat) (l : Link w)
    (hsz : sid < w.socks.size) (hnc : (w.sock sid).rs ≠ .closed)
    (hnew : new < w.trs.size) (hrn : (w.tr new).role = .none) (hcn : (w.tr new).rs ≠ .closed)
    (ssize : w'.socks.size = w.socks.size) (tsize : w'.trs.size = w.trs.size)
    (srs : ∀ j, (w'.sock j).rs = .closed ↔ (w.sock j).rs = .closed)
    (sup : ∀ j, (w'.sock j).upgrading = (w.sock j).upgrading)
    (scand : ∀ j, (w'.sock j).cand = (w.sock j).cand)
    (str : ∀ j, j ≠ sid → (w'.sock j).tr = (w.sock j).tr) (strs : (w'.sock sid).tr = new)
    (role : ∀ t, (w'.tr t).role = if t = new then .current sid else if t = (w.sock sid).tr then .none else (w.tr t).role)
    (closed : ∀ t, (w'.tr t).rs = .closed → (w.tr t).rs = .closed ∨ t = (w.sock sid).tr) : Link w' := by
  have hro := (l.l1 sid hsz hnc).2
  generalize ho : (w.sock sid).tr = old at *
  have hne : new ≠ old := fun e => by rw [← e, hrn] at hro; cases hro
  -- listeners other than those of `sid` on its current transport are where they were
  have hlive : ∀ t r, (w.tr t).role = r → r ≠ .none → r ≠ .current sid → (w'.tr t).role = r := fun t r h h1 h2 => by
    rw [role, if_neg fun e => h1 (by rw [← h, e, hrn]), if_neg fun e => h2 (by rw [← h, e, hro])]; exact h
  refine ⟨fun j hj hncj => ?_, fun t hc => Or.inl ?_, fun t j h => ?_, fun t j h => ?_, fun j c1 h => ?_,
    fun j h => by rw [sup]; exact l.l6 j (by rw [← scand]; exact h)⟩
  · by_cases e : j = sid
    · rw [e, strs, tsize, role, if_pos rfl]; exact ⟨hnew, rfl⟩
    · obtain ⟨a, b⟩ := l.l1 j (ssize ▸ hj) fun h => hncj ((srs j).mpr h)
      rw [str j e, tsize]
      exact ⟨a, hlive _ _ b nofun fun h => e (by cases h; rfl)⟩
  · rw [role]
    rcases closed t hc with a | a
    · rw [if_neg fun e : t = new => hcn (e ▸ a)]; split
      · rfl
      · exact (l.l2 t a).resolve_right nofun
    · rw [a, if_neg hne.symm, if_pos rfl]
  · rw [role] at h
    by_cases e : t = new
    · rw [if_pos e] at h; cases h
      exact ⟨strs.trans e.symm, ssize ▸ hsz, fun hc => hnc ((srs _).mp hc)⟩
    · by_cases e2 : t = old
      · rw [if_neg e, if_pos e2] at h; cases h
      · rw [if_neg e, if_neg e2] at h
        obtain ⟨a, b, c⟩ := l.l3 t j h
        have hj : j ≠ sid := fun e => e2 (by rw [← a, e, ho])
        exact ⟨(str j hj).trans a, ssize ▸ b, fun hc => c ((srs j).mp hc)⟩
  · rw [role] at h
    by_cases e : t = new
    · rw [if_pos e] at h; cases h
    · by_cases e2 : t = old
      · rw [if_neg e, if_pos e2] at h; cases h
      · rw [if_neg e, if_neg e2] at h; rw [scand]; exact l.l4 t j h
  · rw [scand] at h
    exact hlive _ _ (l.l5 j c1 h) nofun nofun

/-- the switch as `doUpgrade` performs it: the old transport is detached and closed (`wB`), the session moved
    onto `new`, `new` made its current transport -/
theorem link_switch_apply (wc wB : World) (sid new : Nat) (l : Link wc)
    (hsz : sid < wc.socks.size) (hnc : (wc.sock sid).rs ≠ .closed)
    (hnew : new < wc.trs.size) (hrn : (wc.tr new).role = .none) (hcn : (wc.tr new).rs ≠ .closed)
    (d : Detached (wc.sock sid).tr (wc.setTr (wc.sock sid).tr fun t => { t with role := .none, silenced := true }) wB) :
    Link (((wB.setSock sid fun s => { s with pingTimeoutDue := none }).setSock sid fun s => { s with tr := new }).setTr new
      fun t => { t with role := .current sid }) := by
  have hold := (l.l1 sid hsz hnc).1
  have hszB : sid < wB.socks.size := by rw [d.socks]; exact hsz
  have hnewB : new < wB.trs.size := by rw [d.size, trs_size_setTr]; exact hnew
  generalize hw' : World.setTr _ new _ = w'
  have hs : ∀ j, j ≠ sid → w'.sock j = wc.sock j := fun j hj => by
    rw [← hw', sock_setTr, sock_setSock, if_neg fun c => hj c.1.symm, sock_setSock, if_neg fun c => hj c.1.symm, d.sock,
      sock_setTr]
  have hss : w'.sock sid = { wc.sock sid with pingTimeoutDue := none, tr := new } := by
    rw [← hw', sock_setTr, sock_setSock, if_pos ⟨rfl, (socks_size_setSock ..).symm ▸ hszB⟩, sock_setSock,
      if_pos ⟨rfl, hszB⟩, d.sock, sock_setTr]
  have htn : w'.tr new = { wB.tr new with role := .current sid } := by
    rw [← hw', tr_setTr, tr_setSock, tr_setSock]; exact if_pos ⟨rfl, hnewB⟩
  have ht : ∀ t, t ≠ new → w'.tr t = wB.tr t := fun t h => by
    rw [← hw', tr_setTr, if_neg fun c => h c.1.symm, tr_setSock, tr_setSock]
  -- of the transports, closing the old one has changed only the old one, and not its role
  have hB : ∀ t, t ≠ (wc.sock sid).tr → wB.tr t = wc.tr t := fun t h => by
    rw [d.other t h, tr_setTr, if_neg fun c => h c.1.symm]
  have hBo : (wB.tr (wc.sock sid).tr).role = .none := by rw [d.role, tr_setTr, if_pos ⟨rfl, hold⟩]
  have hsame : ∀ j, w'.sock j = wc.sock j ∨ w'.sock j = { wc.sock j with pingTimeoutDue := none, tr := new } := fun j => by
    by_cases e : j = sid
    · exact Or.inr (e ▸ hss)
    · exact Or.inl (hs j e)
  refine link_switch_core wc w' sid new l hsz hnc hnew hrn hcn ?_ ?_ (fun j => ?_) (fun j => ?_) (fun j => ?_)
    (fun j hj => by rw [hs j hj]) (by rw [hss]) (fun t => ?_) fun t hc => ?_
  · rw [← hw', socks_setTr, socks_size_setSock, socks_size_setSock, d.socks, socks_setTr]
  · rw [← hw', trs_size_setTr, trs_setSock, trs_setSock, d.size, trs_size_setTr]
  · rcases hsame j with h | h <;> rw [h]
  · rcases hsame j with h | h <;> rw [h]
  · rcases hsame j with h | h <;> rw [h]
  · by_cases e : t = new
    · rw [e, htn, if_pos rfl]
    · rw [if_neg e, ht t e]
      by_cases e2 : t = (wc.sock sid).tr
      · rw [if_pos e2, e2]; exact hBo
      · rw [if_neg e2, hB t e2]
  · by_cases e2 : t = (wc.sock sid).tr
    · exact Or.inr e2
    · refine Or.inl ?_
      by_cases e : t = new
      · rw [e, htn] at hc; rw [e, ← hB new (e ▸ e2)]; exact hc
      · rw [ht t e, hB t e2] at hc; exact hc

theorem candCleanup_trs (w : World) (sid j : Nat) :
    (candCleanup w sid).trs.size = w.trs.size ∧ ((candCleanup w sid).tr j).rs = (w.tr j).rs := by
  unfold candCleanup; split
  · exact ⟨rfl, rfl⟩
  · refine ⟨trs_size_setTr .., ?_⟩
    rw [tr_setTr]; split <;> rfl

theorem lk_doUpgrade {w : World} (sid : Nat) (c : Cand) (hc : (w.sock sid).cand = some c)
    (hnc : (w.sock sid).rs ≠ .closed) (l : Link w) : Link (doUpgrade w sid c.tr) := by
  have hcr := l.l5 sid c hc
  have hcc : (w.tr c.tr).rs ≠ .closed := fun h => (l.l2 _ h).elim (fun h' => by rw [hcr] at h'; cases h') nofun
  unfold doUpgrade
  -- the candidate `c.tr` after the cleanup: still there and not closed, without listeners
  have la := lk_candCleanup sid l
  have va := candCleanup_sameView w sid
  have ha := candCleanup_trs w sid c.tr
  have hr := candCleanup_role hc
  generalize candCleanup w sid = wa at la va ha hr ⊢
  dsimp only
  generalize hwc : World.setSock _ sid (fun s => { s with upgraded := true }) = wc
  have hsock : wc.sock sid = { wa.sock sid with upgraded := true } := by
    rw [← hwc, sock_setSock, if_pos ⟨rfl, va.size ▸ sock_exists_of_cand w sid c hc⟩, sock_setTr]
  have htr : ∀ t, (wc.tr t).role = (wa.tr t).role ∧ (wc.tr t).rs = (wa.tr t).rs := fun t => by
    rw [← hwc, tr_setSock, tr_setTr]; split <;> exact ⟨rfl, rfl⟩
  have lf := link_switch_apply wc _ sid c.tr (hwc ▸ lk_setSock _ _ (lk_setTr _ _ la))
    (by rw [← hwc, socks_size_setSock, socks_setTr, va.size]; exact sock_exists_of_cand w sid c hc)
    (by rw [hsock]; exact (va.sock sid).rs ▸ hnc)
    (by rw [← hwc, trs_setSock, trs_size_setTr, ha.1]; exact role_in_table w c.tr (by rw [hcr]; nofun))
    ((htr _).1.trans hr) (by rw [(htr _).2, ha.2]; exact hcc)
    (det_trCloseF (tr_setTr_role_none _ _ _ fun _ => rfl) 11 (Detached.refl (wc.sock sid).tr _))
  have e : clearTransport wc sid = (trCloseF 11 (wc.setTr (wc.sock sid).tr fun t => { t with role := .none, silenced := true })
      (wc.sock sid).tr none).setSock sid fun s => { s with pingTimeoutDue := none } := by
    unfold clearTransport; rw [clearTransportF]
  rw [e]
  have l2 := lk_flush sid (lk_sev sid .upgrade lf)
  exact ite_ind (fun _ => lk_trClose _ _ l2) fun _ => l2

end EIO.Ses
