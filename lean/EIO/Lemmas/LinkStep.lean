import EIO.Lemmas.LinkOps
/-
The linkage through packets, writer tasks, handshakes, requests, frames, timers and
every operation: `step_link`.
-/
namespace EIO.Ses
open EIO EIO.Codec

section
variable {w : World}

theorem lk_candOnPacket (sid : Nat) (p : Pkt) (l : Link w) : Link (candOnPacket w sid p) := by
  unfold candOnPacket; split
  · exact l
  · rename_i c hc
    exact ite_ind (fun _ => lk_setCandTimers sid c _ (by rw [sock_sev, sock_trSend, hc]) rfl (lk_sev _ _ (lk_trSend _ _ l)))
      fun _ => ite_ind (fun hu => lk_doUpgrade sid c hc hu.2 l) fun _ => lk_trClose _ _ (lk_candCleanup sid l)

theorem lk_sockOnPacket (sid : Nat) (p : Pkt) (l : Link w) : Link (sockOnPacket w sid p) := by
  unfold sockOnPacket
  refine ite_ind (fun _ => l) fun _ => ?_
  have l1 := lk_sev sid (.packet p.typ) l
  split
  · exact ite_ind (fun _ => lk_sockOnClose 10 _ _ l1) fun _ =>
      lk_sev _ _ (lk_sendPacket _ _ _ (lk_setSock _ _ l1))
  · exact ite_ind (fun _ => lk_sockOnClose 10 _ _ l1) fun _ => lk_sev _ _ (lk_setSock _ _ l1)
  · exact lk_sockOnClose 10 _ _ l1
  · exact lk_sev _ _ l1
  · exact l1

theorem lk_trEmitPacket (ti : Nat) (p : Pkt) (l : Link w) : Link (trEmitPacket w ti p) := by
  unfold trEmitPacket; split
  · exact lk_sockOnPacket _ _ l
  · exact lk_candOnPacket _ _ l
  · exact l

theorem lk_rejectReq (r code : Nat) (msg : String) (l : Link w) : Link (rejectReq w r code msg) :=
  lk_answer _ _ (lk_ev _ l)

theorem lk_emitHeaders (ti r : Nat) (l : Link w) : Link (emitHeaders w ti r) :=
  emitHeaders_ind ti r (fun _ _ l => lk_setReq _ _ l) (fun _ _ l => lk_ev _ l) l

theorem lk_runPollSend (ti : Nat) (batch : List Pkt) (l : Link w) : Link (runPollSend w ti batch) := by
  unfold runPollSend; dsimp only
  generalize hw1 : (if (w.tr ti).shouldClose = true then _ else w) = w1
  have l1 : Link w1 := hw1 ▸ ite_ind (fun _ => lk_pollOnClose _ (lk_runCloseFn _ (lk_setTr _ _ l))) fun _ => l
  split
  · exact lk_trOnError _ l1
  · exact lk_trEmitDrain _ (lk_answer _ _ (lk_emitHeaders _ _ (lk_setTr _ _ l1)))

theorem lk_wsSendLoop (ti : Nat) (batch : List Pkt) (l : Link w) : Link (wsSendLoop ti batch w) :=
  wsSendLoop_ind ti (fun _ _ l => lk_setConn _ _ l) (fun _ l => lk_trOnError _ l) batch l

theorem lk_runWsSend (ti : Nat) (batch : List Pkt) (l : Link w) : Link (runWsSend w ti batch) := by
  unfold runWsSend
  exact lk_trEmitReady _ (lk_setTr _ _ (lk_trEmitDrain _ (lk_wsSendLoop ti batch l)))

theorem lk_runTask (t : Task) (l : Link w) : Link (runTask w t) := by
  cases t with
  | pollSend ti b => rw [runTask]; exact lk_runPollSend ti b l
  | wsSend ti b => rw [runTask]; exact lk_runWsSend ti b l

end

theorem lk_tasks {w : World} (r : List Task) (l : Link w) : Link ({ w with tasks := r } : World) := lk_fields _ l

theorem lk_settle {w : World} (f : Nat) (l : Link w) : Link (settle f w) :=
  settle_ind (fun _ _ _ _ l => lk_runTask _ (lk_tasks _ l)) f l

theorem link_pushTr {w : World} (t : Tr) (hr : t.role = .none) (l : Link w) :
    Link ({ w with trs := w.trs.push t } : World) := by
  -- beyond the table a role reads as `none`, which is the role of the new transport
  have htr : ∀ j, j = w.trs.size → (w.tr j).role = .none := fun j e => by rw [tr_oob w j (Nat.le_of_eq e.symm)]; rfl
  refine l.transfer rfl (Nat.le_of_lt (Nat.lt_of_lt_of_eq (Nat.lt_succ_self _) (Array.size_push t).symm))
    (fun _ => ⟨Iff.rfl, rfl, rfl, rfl⟩) (fun j => ?_) fun j hc => ?_
  · rw [tr_push rfl]; split
    · rename_i e; rw [hr, htr j e]
    · rfl
  · rw [tr_push rfl] at hc
    by_cases e : j = w.trs.size
    · exact Or.inl (htr j e)
    · rw [if_neg e] at hc; exact l.l2 j hc

/-- a new session on a transport that has no listeners yet -/
theorem link_openCore' {w w1 : World} (ti proto : Nat) (l : Link w) (hti : ti < w.trs.size)
    (hr : (w.tr ti).role = .none) (hc : (w.tr ti).rs ≠ .closed)
    (hsocks : w1.socks = w.socks.push { proto, tr := ti }) (htrs : w1.trs = w.trs) :
    Link ((w1.setTr ti fun t => { t with role := .current w.socks.size, owner := w.socks.size }).setSock w.socks.size
      fun s => { s with rs := .open_ }) := by
  have h1sz : w1.socks.size = w.socks.size + 1 := by rw [hsocks, Array.size_push]
  have h1t : ∀ j, w1.tr j = w.tr j := fun j => by unfold World.tr; rw [htrs]
  generalize hw' : World.setSock _ w.socks.size _ = w'
  -- the sessions of `w'`: the old ones, and the new one on `ti`
  have hs : ∀ j, j ≠ w.socks.size → w'.sock j = w.sock j := fun j h => by
    rw [← hw', sock_setSock, if_neg fun c => h c.1.symm, sock_setTr, sock_push hsocks, if_neg h]
  have hsn : w'.sock w.socks.size = { proto, tr := ti, rs := .open_ } := by
    rw [← hw', sock_setSock, if_pos ⟨rfl, by rw [socks_setTr, h1sz]; exact Nat.lt_succ_self _⟩, sock_setTr,
      sock_push hsocks, if_pos rfl]
  have ht : ∀ j, j ≠ ti → w'.tr j = w.tr j := fun j h => by
    rw [← hw', tr_setSock, tr_setTr, if_neg fun c => h c.1.symm, h1t]
  have htn : (w'.tr ti).role = .current w.socks.size ∧ (w'.tr ti).rs = (w.tr ti).rs := by
    rw [← hw', tr_setSock, tr_setTr, if_pos ⟨rfl, htrs ▸ hti⟩, h1t]; exact ⟨rfl, rfl⟩
  have hsize : w'.socks.size = w.socks.size + 1 := by rw [← hw', socks_size_setSock, socks_setTr, h1sz]
  have htsize : w'.trs.size = w.trs.size := by rw [← hw', trs_setSock, trs_size_setTr, htrs]
  have hlive : ∀ j, (w.tr j).role ≠ .none → w'.tr j = w.tr j := fun j h => ht j fun e => h (e ▸ hr)
  refine ⟨fun j hj hnc => ?_, fun t h => ?_, fun t j h => ?_, fun t j h => ?_, fun j c h => ?_, fun j h => ?_⟩
  · by_cases e : j = w.socks.size
    · rw [e, hsn, htsize]; exact ⟨hti, htn.1⟩
    · rw [hs j e] at hnc ⊢
      obtain ⟨a, b⟩ := l.l1 j (Nat.lt_of_le_of_ne (Nat.le_of_lt_succ (Nat.lt_of_lt_of_eq hj hsize)) e) hnc
      rw [htsize, hlive _ (by rw [b]; nofun)]; exact ⟨a, b⟩
  · by_cases e : t = ti
    · rw [e, htn.2] at h; exact absurd h hc
    · rw [ht t e] at h ⊢; exact l.l2 t h
  · by_cases e : t = ti
    · rw [e, htn.1] at h; cases h
      rw [hsn, hsize]; exact ⟨e.symm, Nat.lt_succ_self _, nofun⟩
    · rw [ht t e] at h
      obtain ⟨a, b, c⟩ := l.l3 t j h
      rw [hs j (Nat.ne_of_lt b), hsize]; exact ⟨a, Nat.lt_succ_of_lt b, c⟩
  · by_cases e : t = ti
    · rw [e, htn.1] at h; cases h
    · rw [ht t e] at h
      obtain ⟨c, hc1, hc2⟩ := l.l4 t j h
      rw [hs j (Nat.ne_of_lt (sock_exists_of_cand w j c hc1))]; exact ⟨c, hc1, hc2⟩
  · by_cases e : j = w.socks.size
    · rw [e, hsn] at h; cases h
    · rw [hs j e] at h
      rw [hlive _ (by rw [l.l5 j c h]; nofun)]; exact l.l5 j c h
  · by_cases e : j = w.socks.size
    · rw [e, hsn] at h; cases h
    · rw [hs j e] at h ⊢; exact l.l6 j h

theorem lk_pushReq {w : World} (q : Req) (l : Link w) : Link ({ w with reqs := w.reqs.push q } : World) := lk_fields _ l
theorem lk_pushConn {w : World} (c : Conn) (l : Link w) : Link ({ w with conns := w.conns.push c } : World) := lk_fields _ l

section
variable {w : World}

theorem lk_openPackets (sid : Nat) (n : String) (l : Link w) : Link (openPackets w sid n) := by
  unfold openPackets
  have l1 := lk_sendPacket sid { typ := .open, data := some ⟨.text, jsonOpen w sid n⟩, compress := true } none l
  dsimp only; split
  · exact lk_sendPacket _ _ _ l1
  · exact l1

theorem lk_openAnnounce (sid : Nat) (n : String) (proto : Nat) (l : Link w) : Link (openAnnounce w sid n proto) := by
  unfold openAnnounce
  exact lk_sev _ _ (lk_setSock _ _ (lk_registry _ (lk_setSock _ _ l fun _ => by split <;> exact ⟨Iff.rfl, rfl, rfl, rfl⟩)))

theorem lk_openSession (ti proto : Nat) (hti : ti < w.trs.size) (hr : (w.tr ti).role = .none)
    (hc : (w.tr ti).rs ≠ .closed) (l : Link w) : Link (openSession w ti proto) := by
  unfold openSession
  exact lk_openAnnounce _ _ _ (lk_openPackets _ _ (link_openCore' ti proto l hti hr hc rfl rfl))

theorem lk_onPollRequest (ti r : Nat) (l : Link w) : Link (onPollRequest w ti r) := by
  unfold onPollRequest
  refine ite_ind (fun _ => lk_answer _ _ (lk_trOnError _ l)) fun _ => ?_
  have l1 := lk_trEmitReady ti (lk_setReq r (fun q => { q with pollOf := some ti })
    (lk_setTr ti (fun t => { t with req := some r, writable := true }) l))
  exact ite_ind (fun _ => lk_trSend _ _ l1) fun _ => l1

end


/-- the first poll of a handshake: the transport has no listeners yet -/
theorem onPollRequest_detached (w : World) (ti r : Nat) (hr : (w.tr ti).role = .none) (hq : (w.tr ti).req = none) :
    ((onPollRequest w ti r).tr ti).role = .none ∧ ((onPollRequest w ti r).tr ti).rs = (w.tr ti).rs ∧
    (onPollRequest w ti r).trs.size = w.trs.size := by
  -- one copy of the function body to work on
  let P : World → Prop := fun w' => (w'.tr ti).role = .none ∧ (w'.tr ti).rs = (w.tr ti).rs ∧ w'.trs.size = w.trs.size
  show P (onPollRequest w ti r)
  unfold onPollRequest
  rw [hq, if_neg nofun]
  dsimp only
  generalize hw1 : World.setReq _ r _ = w1
  have h1 : P w1 := by
    show (w1.tr ti).role = _ ∧ _
    rw [← hw1, tr_setReq, trs_setReq, trs_size_setTr, tr_setTr]; split <;> exact ⟨hr, rfl, rfl⟩
  -- "ready" finds no listener
  have e : trEmitReady w1 ti = w1 := by unfold trEmitReady; rw [h1.1]
  rw [e]; split
  · show ((trSend w1 ti _).tr ti).role = _ ∧ ((trSend w1 ti _).tr ti).rs = _ ∧ (trSend w1 ti _).trs.size = _
    rw [tr_trSend, trs_size_trSend, tr_setTr]; split <;> exact h1
  · exact h1

section
variable {w : World}

theorem lk_openFresh (t : Tr) (proto : Nat) (hr : t.role = .none) (hc : t.rs ≠ .closed) (l : Link w) :
    Link (openSession { w with trs := w.trs.push t } w.trs.size proto) := by
  have ht := tr_pushed (w' := { w with trs := w.trs.push t }) rfl
  exact lk_openSession _ _ (Nat.lt_of_lt_of_eq (Nat.lt_succ_self _) (Array.size_push t).symm) (by rw [ht]; exact hr)
    (by rw [ht]; exact hc) (link_pushTr t hr l)

theorem lk_hsPolling (proto : Nat) (b64 : Bool) (j : Option Bytes) (l : Link w) : Link (hsPolling w proto b64 j) := by
  unfold hsPolling
  have l0 := lk_pushReq { hasSid := false } l
  refine ite_ind (fun _ => lk_rejectReq _ _ _ l0) fun _ => ite_ind (fun _ => lk_rejectReq _ _ _ l0) fun _ => ?_
  have l1 := link_pushTr { isPolling := true, proto, b64, jsonp := j.map jsonpDigits } rfl l0
  dsimp only
  generalize hw1 : World.mk _ _ (w.trs.push _) _ _ _ _ _ _ _ _ _ = w1 at l1 ⊢
  have ht : w1.tr w.trs.size = { isPolling := true, proto, b64, jsonp := j.map jsonpDigits } :=
    tr_pushed (by rw [← hw1])
  have hsz : w.trs.size < w1.trs.size := by
    rw [← hw1]; exact Nat.lt_of_lt_of_eq (Nat.lt_succ_self _) (Array.size_push _).symm
  -- the first poll finds the new transport without listeners and leaves it so
  obtain ⟨a, b, c⟩ := onPollRequest_detached w1 w.trs.size w.reqs.size (by rw [ht]) (by rw [ht])
  exact lk_openSession _ _ (c ▸ hsz) a (by rw [b, ht]; nofun) (lk_onPollRequest _ _ l1)

theorem lk_hsWebsocket (proto : Nat) (b64 : Bool) (l : Link w) : Link (hsWebsocket w proto b64) := by
  unfold hsWebsocket
  have l0 := lk_pushConn {} l
  refine ite_ind (fun _ => lk_setConn _ _ l0) fun _ => ite_ind (fun _ => lk_setConn _ _ (lk_ev _ l0)) fun _ => ?_
  exact lk_openFresh _ _ rfl nofun l0

theorem lk_hsWt (l : Link w) : Link (hsWt w) := by
  unfold hsWt
  exact lk_openFresh _ _ rfl nofun (lk_pushConn { wt := true } l)

theorem lk_pollReq (sid : Nat) (ae : Bytes) (l : Link w) : Link (pollReq w sid ae) := by
  unfold pollReq
  have l0 := lk_pushReq { ae } l
  dsimp only; split
  · exact lk_rejectReq _ _ _ l0
  · exact ite_ind (fun _ => lk_rejectReq _ _ _ l0) fun _ => lk_onPollRequest _ _ l0

theorem lk_pollDeliver (ti : Nat) (pkts : List Pkt) (l : Link w) : Link (pollDeliver ti pkts w) :=
  pollDeliver_ind ti pkts (fun _ l => lk_pollOnClose _ l) (fun _ _ _ l => lk_trEmitPacket _ _ l) l

theorem lk_pollOnData (ti : Nat) (body : Bytes) (binary : Bool) (l : Link w) : Link (pollOnData w ti body binary).1 := by
  unfold pollOnData; split
  · exact lk_pollDeliver _ _ l
  · exact l
  · exact lk_fields _ l

theorem lk_postReq (sid : Nat) (binary declared : Bool) (body : Bytes) (vj : Bool) (l : Link w) :
    Link (postReq w sid binary declared body vj) := by
  unfold postReq
  have l0 := lk_pushReq { isPost := true, consumed := some 0 } l
  dsimp only; split
  · exact lk_rejectReq _ _ _ l0
  · rename_i s _
    refine ite_ind (fun _ => lk_rejectReq _ _ _ l0) fun _ => ?_
    refine ite_ind (fun _ => lk_answer _ _ (lk_trOnError _ l0)) fun _ => ?_
    refine ite_ind (fun _ => lk_answer _ _ l0) fun _ => ?_
    refine ite_ind (fun _ => lk_answer _ _ (lk_setReq _ _ l0)) fun _ => ?_
    generalize hw1 : World.setTr _ s.tr _ = w1
    have l1 : Link w1 := hw1 ▸ lk_setTr _ _ (lk_setReq _ _ l0)
    refine ite_ind (fun _ => lk_trOnError _ (lk_setReq _ _ (lk_setTr _ _ ?_))) fun _ =>
      lk_answer _ _ (lk_emitHeaders _ _ (lk_setTr _ _ ?_))
    all_goals
      split
      · exact lk_pollOnData _ _ _ l1
      · exact l1

theorem lk_abortReq (r : Nat) (l : Link w) : Link (abortReq w r) := by
  unfold abortReq
  refine ite_ind (fun _ => l) fun _ => ?_
  dsimp only; split
  · exact ite_ind (fun _ => lk_trOnError _ (lk_setTr _ _ (lk_setReq _ _ l))) fun _ => lk_setReq _ _ l
  · exact lk_setReq _ _ l

end

/-- a new transport becomes the candidate of a session that has none -/
theorem link_candCore {w w1 : World} (sid : Nat) (t : Tr) (c0 : Cand) (l : Link w) (hsz : sid < w.socks.size)
    (hup : (w.sock sid).upgrading = false)
    (hsocks : w1.socks = w.socks) (htrs : w1.trs = w.trs.push t)
    (hr : t.role = .candidate sid) (hc : t.rs ≠ .closed) (hc0 : c0.tr = w.trs.size) :
    Link (w1.setSock sid fun s => { s with upgrading := true, cand := some c0 }) := by
  have hcn : (w.sock sid).cand = none := by
    cases h : (w.sock sid).cand with
    | none => rfl
    | some c => have := l.l6 sid (by rw [h]; rfl); rw [hup] at this; cases this
  generalize hw' : w1.setSock sid _ = w'
  have hs : ∀ j, j ≠ sid → w'.sock j = w.sock j := fun j h => by
    rw [← hw', sock_setSock, if_neg fun c => h c.1.symm]; unfold World.sock; rw [hsocks]
  have hss : w'.sock sid = { w.sock sid with upgrading := true, cand := some c0 } := by
    rw [← hw', sock_setSock, if_pos ⟨rfl, hsocks ▸ hsz⟩]; unfold World.sock; rw [hsocks]
  have ht : ∀ j, w'.tr j = if j = w.trs.size then t else w.tr j := fun j => by
    rw [← hw', tr_setSock]; exact tr_push htrs j
  have hsize : w'.socks.size = w.socks.size := by rw [← hw', socks_size_setSock, hsocks]
  have htsize : w'.trs.size = w.trs.size + 1 := by rw [← hw', trs_setSock, htrs, Array.size_push]
  have hlive : ∀ j, (w.tr j).role ≠ .none → w'.tr j = w.tr j := fun j h => by
    rw [ht, if_neg (Nat.ne_of_lt (role_in_table w j h))]
  -- what a session had of state, transport and candidate it still has; `sid` has gained the candidate `c0`
  have hkeep : ∀ j, (w'.sock j).rs = (w.sock j).rs ∧ (w'.sock j).tr = (w.sock j).tr ∧
      ∀ c, (w.sock j).cand = some c → (w'.sock j).cand = some c := fun j => by
    by_cases e : j = sid
    · rw [e, hss]; exact ⟨rfl, rfl, fun c h => by rw [hcn] at h; cases h⟩
    · rw [hs j e]; exact ⟨rfl, rfl, fun _ h => h⟩
  refine ⟨fun j hj hnc => ?_, fun t' h => ?_, fun t' j h => ?_, fun t' j h => ?_, fun j c h => ?_, fun j h => ?_⟩
  · rw [(hkeep j).1] at hnc
    obtain ⟨a, b⟩ := l.l1 j (hsize ▸ hj) hnc
    rw [(hkeep j).2.1, htsize, hlive _ (by rw [b]; nofun)]; exact ⟨Nat.lt_succ_of_lt a, b⟩
  · rw [ht] at h ⊢
    by_cases e : t' = w.trs.size
    · rw [if_pos e] at h; exact absurd h hc
    · rw [if_neg e] at h ⊢; exact l.l2 t' h
  · rw [ht] at h
    by_cases e : t' = w.trs.size
    · rw [if_pos e, hr] at h; cases h
    · rw [if_neg e] at h; rw [(hkeep j).1, (hkeep j).2.1, hsize]; exact l.l3 t' j h
  · rw [ht] at h
    by_cases e : t' = w.trs.size
    · rw [if_pos e, hr] at h; cases h
      exact ⟨c0, by rw [hss], hc0.trans e.symm⟩
    · rw [if_neg e] at h
      obtain ⟨c, hc1, hc2⟩ := l.l4 t' j h
      exact ⟨c, (hkeep j).2.2 c hc1, hc2⟩
  · by_cases e : j = sid
    · rw [e, hss] at h; cases h
      rw [hc0, ht, if_pos rfl]; exact e ▸ hr
    · rw [hs j e] at h
      rw [hlive _ (by rw [l.l5 j c h]; nofun)]; exact l.l5 j c h
  · by_cases e : j = sid
    · rw [e, hss]
    · rw [hs j e] at h ⊢; exact l.l6 j h

section
variable {w : World}

/-- the upgrade candidate a registered session accepts: a new transport `t` with that session's candidate listeners -/
theorem lk_candidate (sid : Nat) (t : Tr) (c0 : Cand) (s0 : Sock) (hl : lookup w sid = some s0)
    (hg : ¬ (s0.upgrading = true ∨ s0.upgraded = true)) (hreg : ∀ s ∈ w.registry, s < w.socks.size)
    (hr : t.role = .candidate sid) (hc : t.rs ≠ .closed) (hc0 : c0.tr = w.trs.size) (l : Link w) :
    Link (({ w with trs := w.trs.push t } : World).setSock sid fun s => { s with upgrading := true, cand := some c0 }) := by
  obtain ⟨hs0, hin⟩ := lookup_reg _ _ _ hl
  have hup : (w.sock sid).upgrading = false := by
    cases hu : (w.sock sid).upgrading with
    | false => rfl
    | true => exact absurd (Or.inl (hs0 ▸ hu)) hg
  exact link_candCore sid t c0 l (hreg sid hin) hup rfl rfl hr hc hc0

theorem lk_wsCandidate (sid proto : Nat) (b64 : Bool) (hreg : ∀ s ∈ w.registry, s < w.socks.size)
    (l : Link w) : Link (wsCandidate w sid proto b64) := by
  unfold wsCandidate
  have l0 := lk_pushConn {} l
  dsimp only
  refine ite_ind (fun _ => lk_setConn _ _ (lk_setConn _ _ l0)) fun _ => ?_
  split
  · exact lk_setConn _ _ (lk_setConn _ _ (lk_ev _ l0))
  · rename_i s0 hl
    exact ite_ind (fun _ => lk_setConn _ _ l0) fun hg => lk_candidate sid _ _ s0 hl hg hreg rfl nofun rfl l0

theorem lk_wtCandidate (sid : Nat) (hreg : ∀ s ∈ w.registry, s < w.socks.size)
    (l : Link w) : Link (wtCandidate w sid) := by
  unfold wtCandidate
  have l0 := lk_pushConn { wt := true } l
  dsimp only; split
  · exact lk_setConn _ _ l0
  · rename_i s0 hl
    exact ite_ind (fun _ => lk_setConn _ _ l0) fun hg => lk_candidate sid _ _ s0 hl hg hreg rfl nofun rfl l0

theorem lk_wsFrame (c : Nat) (m : Msg) (l : Link w) : Link (wsFrame w c m).1 := by
  rw [wsFrame_fst]
  refine ite_ind (fun _ => l) fun _ => ?_
  split
  · exact l
  · exact ite_ind (fun _ => lk_trOnError _ (lk_setConn _ _ l)) fun _ => lk_trEmitPacket _ _ l

theorem lk_wsDrop (c : Nat) (l : Link w) : Link (wsDrop w c) := by
  unfold wsDrop
  refine ite_ind (fun _ => lk_setConn _ _ l) fun _ => ?_
  dsimp only; split
  · exact ite_ind (fun _ => lk_trOnError _ (lk_setConn _ _ (lk_setConn _ _ l))) fun _ =>
      lk_trOnCloseBase _ (lk_setConn _ _ (lk_setConn _ _ l))
  · exact lk_setConn _ _ (lk_setConn _ _ l)

theorem lk_appClose (sid : Nat) (discard : Bool) (l : Link w) : Link (appClose w sid discard) := by
  unfold appClose
  refine ite_ind (fun _ => lk_closeTransport _ _ l) fun _ => ite_ind (fun _ => l) fun ho => ?_
  -- an open session marked closing is still not closed
  have ho : (w.sock sid).rs = .open_ := Decidable.not_not.mp ho
  have l1 : Link (w.setSock sid fun s => { s with rs := .closing }) :=
    lk_setSock_at _ _ l ⟨⟨nofun, fun h => by rw [ho] at h; cases h⟩, rfl, rfl, rfl⟩
  exact ite_ind (fun _ => lk_setSock _ _ l1) fun _ => lk_closeTransport _ _ l1

theorem lk_shutdown (l : Link w) : Link (shutdown w) := foldl_ind (fun _ _ l => lk_appClose _ _ l) l

theorem lk_appSend (sid : Nat) (m : Msg) (compress wantCb : Bool) (pre : Option Msg) (l : Link w) :
    Link (appSend w sid m compress wantCb pre) := by
  unfold appSend
  exact lk_sendPacket _ _ _ (ite_ind (fun _ => lk_fields _ l) fun _ => l)

theorem lk_fireTimer (id : TimerId) (l : Link w) : Link (fireTimer w id) := by
  cases id with
  | pingInterval sid => rw [fireTimer]; exact lk_setSock _ _ (lk_sendPacket _ _ _ (lk_setSock _ _ l))
  | pingTimeout sid =>
    rw [fireTimer]
    exact ite_ind (fun _ => lk_setSock _ _ l) fun _ => lk_sockOnClose 10 _ _ (lk_setSock _ _ l)
  | closeTimer ti =>
    rw [fireTimer]
    exact ite_ind (fun _ => lk_pollOnClose _ (lk_runCloseFn _ (lk_setTr _ _ l))) fun _ => lk_wsCloseNow _ (lk_setTr _ _ l)
  | upgradeTimeout sid =>
    rw [fireTimer]; split
    · exact ite_ind (fun _ => lk_trClose _ _ (lk_candCleanup sid l)) fun _ => lk_candCleanup sid l
    · exact l
  | check sid =>
    rw [fireTimer]; split
    · rename_i c hc
      have l1 := lk_setCandTimers sid c { c with checkDue := some (w.now + checkPeriod) } hc rfl l
      exact ite_ind (fun _ => lk_trSend _ _ l1) fun _ => l1
    · exact l

theorem lk_advance (f target : Nat) (l : Link w) : Link (advance f w target) :=
  advance_ind target (fun _ _ l => lk_fields _ l) (fun _ _ l => lk_fireTimer _ l) f l

theorem lk_observe (l : Link w) : Link (observe w) := by
  unfold observe
  refine foldl_ind (fun _ _ l => lk_setConn _ _ l) (foldl_ind (fun _ _ l => ?_) (lk_fields _ l))
  exact ite_ind (fun _ => lk_setReq _ _ l) fun _ => l

end

/-- every operation keeps the linkage; the registry must name existing sessions (part of `Inv`) -/
theorem step_link (w : World) (op : Op) (hreg : ∀ s ∈ w.registry, s < w.socks.size) (l : Link w) : Link (step w op) := by
  unfold step
  refine ite_ind (fun _ => l) fun _ => ?_
  cases op with
  | hsPolling p b j => exact lk_hsPolling _ _ _ l
  | hsWebsocket p b => exact lk_hsWebsocket _ _ l
  | poll sid ae => exact lk_pollReq _ _ l
  | post sid bin decl body vj => exact lk_postReq _ _ _ _ _ l
  | abort r => exact lk_abortReq _ l
  | wsCandidate sid p b => exact lk_wsCandidate _ _ _ hreg l
  | hsWt => exact lk_hsWt l
  | wtCandidate sid => exact lk_wtCandidate _ hreg l
  | frame c m => exact ite_ind (fun _ => l) fun _ => lk_wsFrame _ _ l
  | drop c => exact lk_wsDrop _ l
  | closeFrame c code => exact lk_wsDrop _ (lk_setConn _ _ l)
  | send sid m c cb pre => exact lk_appSend _ _ _ _ _ l
  | close sid d => exact lk_appClose _ _ l
  | shutdown => exact lk_shutdown l
  | adv d => exact lk_advance _ _ l
  | settle => exact lk_settle _ l
  | observe => exact lk_observe l

theorem link_init (o : Opts) : Link (init o) := by
  have hs : ∀ j, (init o).sock j = default := fun j => sock_oob _ _ (Nat.zero_le _)
  have ht : ∀ j, (init o).tr j = default := fun j => tr_oob _ _ (Nat.zero_le _)
  refine ⟨?_, ?_, ?_, ?_, ?_, ?_⟩
  · intro sid h; exact absurd h (Nat.not_lt_zero _)
  · intro ti _; left; rw [ht]; rfl
  · intro ti sid h; rw [ht] at h; cases h
  · intro ti sid h; rw [ht] at h; cases h
  · intro sid c h; rw [hs] at h; cases h
  · intro sid h; rw [hs] at h; cases h

end EIO.Ses
