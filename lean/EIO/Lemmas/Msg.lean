import EIO.Lemmas.Only
/-
The size of delivered messages: every `message` entry a packet produces carries that packet's data, and a revision-4
decoder never hands out more data than it was given. `MB n w w'`: from `w` to `w'` the log grew by entries that are no
messages or messages of at most `n` bytes; it is what `Only (mayMsg n)` says of the log.
-/
namespace EIO.Ses
open EIO EIO.Codec

/-- a log entry that is no message, or a message of at most `n` bytes -/
def msgOK (n : Nat) : SEv → Prop
  | .message (some m) => m.data.length ≤ n
  | _ => True

/-- the step logged only entries that are `msgOK n` -/
def MB (n : Nat) (w w' : World) : Prop := ∃ added, w'.slog = w.slog ++ added ∧ ∀ e ∈ added, msgOK n e.2

/-- `MB n` as a licence -/
def mayMsg (n : Nat) : May := ⟨msgOK n, True, True, True, True⟩

theorem routine_mayMsg (n : Nat) : Routine (mayMsg n).log := by constructor <;> intros <;> trivial

/-- a packet whose message data, if it is a message packet, has at most `n` bytes -/
def pktOK (n : Nat) (p : Pkt) : Prop := p.typ = .message → ∀ m, p.data = some m → m.data.length ≤ n

theorem takes_of_pktOK {n : Nat} {p : Pkt} (hp : pktOK n p) : Takes (mayMsg n).log p := by
  refine ⟨fun _ => ⟨trivial, trivial⟩, fun _ => trivial, fun _ _ => trivial, fun hty => ?_, fun _ => trivial⟩
  cases hd : p.data with
  | none => trivial
  | some m => exact hp hty m hd

theorem mb_sockOnPacket {n : Nat} (w : World) (sid : Nat) (p : Pkt) (hp : pktOK n p) : MB n w (sockOnPacket w sid p) :=
  (only_sockOnPacket (routine_mayMsg n) sid p (takes_of_pktOK hp) (Only.refl w)).log

theorem mb_trEmitPacket {n : Nat} (w : World) (ti : Nat) (p : Pkt) (hp : pktOK n p) : MB n w (trEmitPacket w ti p) :=
  (only_trEmitPacket (routine_mayMsg n) ti p (takes_of_pktOK hp) (Only.refl w)).log

theorem mb_pollDeliver {n : Nat} (ti : Nat) (pkts : List Pkt) (hp : ∀ p ∈ pkts, pktOK n p) (w : World) : MB n w (pollDeliver ti pkts w) :=
  (only_pollDeliver (routine_mayMsg n) ti pkts (fun p h => takes_of_pktOK (hp p h)) (Only.refl w)).log

theorem unb64_length (d : Bytes) : (unb64Std d).1.length ≤ d.length := by
  fun_induction unb64Std d with
  | case4 =>
    rename_i hm ih
    rw [hm] at ih; exact Nat.le_trans (Nat.succ_le_succ (Nat.succ_le_succ (Nat.succ_le_succ ih))) (Nat.le_succ _)
  | _ => simp

theorem decodePacketV4_ok (e : Enc) : pktOK e.data.length (decodePacketV4 e).1 := by
  obtain ⟨k, d⟩ := e
  intro hty m hm
  cases k with
  | binary =>
    simp [decodePacketV4] at hm
    subst hm; exact Nat.le_refl _
  | text =>
    cases d with
    | nil => simp [decodePacketV4, errorPkt] at hty
    | cons t d =>
      by_cases h98 : t = 98
      · by_cases hbad : (unb64Std d).2 = true
        · simp [decodePacketV4, h98, hbad, errorPkt] at hty
        · simp [decodePacketV4, h98, hbad] at hm
          subst hm
          have := unb64_length d
          simp only [List.length_cons]; omega
      · cases ho : PT.ofChar t with
        | none => simp [decodePacketV4, h98, ho, errorPkt] at hty
        | some ty =>
          simp [decodePacketV4, h98, ho] at hm
          subst hm; simp

theorem splitSep_length : ∀ (body : Bytes), ∀ t ∈ splitSep body, t.length ≤ body.length := by
  intro body
  induction body with
  | nil => intro t ht; simp [splitSep] at ht; subst ht; simp
  | cons b rest ih =>
    intro t ht
    unfold splitSep at ht
    split at ht
    · simp at ht; subst ht; simp
    · rename_i seg segs hs
      have hseg : seg.length ≤ rest.length := ih seg (by rw [hs]; exact List.mem_cons_self)
      have hsegs : ∀ x ∈ segs, x.length ≤ rest.length := fun x hx => ih x (by rw [hs]; exact List.mem_cons_of_mem _ hx)
      split at ht
      · rcases List.mem_cons.mp ht with h | h
        · subst h; simp
        · rcases List.mem_cons.mp h with h | h
          · subst h; simp only [List.length_cons]; omega
          · have := hsegs t h; simp only [List.length_cons]; omega
      · rcases List.mem_cons.mp ht with h | h
        · subst h; simp only [List.length_cons]; omega
        · have := hsegs t h; simp only [List.length_cons]; omega

theorem scanTokens_length (maxTok : Nat) (body : Bytes) : ∀ t ∈ scanTokens maxTok body, t.length ≤ body.length := by
  intro t ht
  unfold scanTokens at ht
  split at ht
  · cases ht
  · have h1 := (List.takeWhile_sublist _).subset ht
    split at h1
    · exact splitSep_length body t (List.dropLast_subset _ h1)
    · exact splitSep_length body t h1

theorem decodePayloadV4_go_ok (n : Nat) : ∀ (toks : List Bytes), (∀ t ∈ toks, t.length ≤ n) → ∀ p ∈ decodePayloadV4.go toks, pktOK n p := by
  intro toks
  induction toks with
  | nil => intro _ p hp; simp [decodePayloadV4.go] at hp
  | cons t rest ih =>
    intro hb p hp
    simp only [decodePayloadV4.go] at hp
    split at hp
    · rcases List.mem_cons.mp hp with h | h
      · subst h
        have := decodePacketV4_ok ⟨.text, t⟩
        intro hty m hm
        exact Nat.le_trans (this hty m hm) (hb t List.mem_cons_self)
      · exact ih (fun x hx => hb x (List.mem_cons_of_mem _ hx)) p h
    · cases hp

theorem decodePayloadV4_ok (body : Bytes) : ∀ p ∈ decodePayloadV4 body, pktOK body.length p :=
  decodePayloadV4_go_ok body.length _ (scanTokens_length 65536 body)

end EIO.Ses
