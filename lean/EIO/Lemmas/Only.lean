import EIO.Lemmas.Detached
import EIO.Lemmas.Acc
import EIO.Lemmas.Quiet
import EIO.Lemmas.Pend
import EIO.Lemmas.Hb
/-
"Only … ever …": `Only M w w'` says that from `w` to `w'` nothing happened that the licence `M` does not allow:

  log, records, hang   which entries were appended to the session log, whether a session record was created, whether a
                       hang was recorded;
  polls and writers    without the licence `poll` the stretch is calm (`Calm`, Lemmas/Pend.lean): no poll registered,
                       answered or given up, no transport created, no writer task taken off the queue;
  heartbeats, clock    without the licence `clock` the clock stands still and every session keeps its heartbeat
                       condition (`Beats`, Lemmas/Hb.lean);

the options are never changed. It is carried through every function of the model once, for an arbitrary `M`; the
hypotheses of each lemma name what that function needs a licence for. "No operation but a data request or a frame
delivers a message", "only the clock closes for ping timeout", "a hang needs a binary body", "a pending poll is owed its
answer after every operation", "every operation keeps the heartbeat timers in order" … are instances (`only_step`).
-/
namespace EIO.Ses
open EIO EIO.Codec

/-- what a stretch of execution may do: the entries it may log, whether it may create session records, whether it
    may record a hang of the process; whether it may register, answer or give up a poll, create a transport or take
    a writer task off the queue (`poll`); whether it may move the clock and run the callback of a heartbeat timer (`clock`) -/
structure May where
  log : SEv → Prop
  create : Prop
  hang : Prop
  poll : Prop
  clock : Prop

structure Only (M : May) (w w' : World) : Prop where
  o : w'.o = w.o
  log : ∃ added, w'.slog = w.slog ++ added ∧ ∀ e ∈ added, M.log e.2
  size : ¬ M.create → w'.socks.size = w.socks.size
  reg : ¬ M.create → ∀ sid ∈ w'.registry, sid ∈ w.registry
  fault : ¬ M.hang → w'.fault = w.fault
  calm : ¬ M.poll → Calm w w'
  beats : ¬ M.clock → Beats w w'

/-- `P` admits the entries that no theorem singles out: a session closing because its transport closed, failed or
    was closed by force (the reasons the close paths themselves supply), and the flush, drain, callback, packet
    and upgrading entries -/
structure Routine (P : SEv → Prop) : Prop where
  transport_close : ∀ rs, P (.close "transport_close" rs)
  transport_error : ∀ rs, P (.close "transport_error" rs)
  forced_close : ∀ rs, P (.close "forced_close" rs)
  flush : ∀ b cbs, P (.flush b cbs)
  drain : P .drain
  cb : ∀ id, P (.cb id)
  packet : ∀ t, P (.packet t)
  upgrading : P .upgrading

variable {M : May} {w0 w : World}

theorem Only.refl (w : World) : Only M w w :=
  ⟨rfl, ⟨[], (List.append_nil _).symm, fun _ h => by cases h⟩, fun _ => rfl, fun _ _ h => h, fun _ => rfl, fun _ => .refl w, fun _ => .refl w⟩

theorem log_trans {P : SEv → Prop} {a b c : World} (h1 : ∃ added, b.slog = a.slog ++ added ∧ ∀ e ∈ added, P e.2)
    (h2 : ∃ added, c.slog = b.slog ++ added ∧ ∀ e ∈ added, P e.2) : ∃ added, c.slog = a.slog ++ added ∧ ∀ e ∈ added, P e.2 := by
  obtain ⟨x, hx, px⟩ := h1
  obtain ⟨y, hy, py⟩ := h2
  refine ⟨x ++ y, by rw [hy, hx, List.append_assoc], fun e he => ?_⟩
  rcases List.mem_append.mp he with h | h
  · exact px e h
  · exact py e h

theorem Only.trans {a b c : World} (h1 : Only M a b) (h2 : Only M b c) : Only M a c :=
  ⟨h2.o.trans h1.o, log_trans h1.log h2.log, fun hc => (h2.size hc).trans (h1.size hc),
   fun hc s hs => h1.reg hc s (h2.reg hc s hs), fun hh => (h2.fault hh).trans (h1.fault hh),
   fun hp => (h1.calm hp).trans (h2.calm hp), fun hk => (h1.beats hk).trans (h2.beats hk)⟩

theorem Only.proj_eq {α} {f : SEv → List α} {w w' : World} (h : Only M w w') (hf : ∀ e, M.log e → f e = []) (sid : Nat) :
    proj f sid w'.slog = proj f sid w.slog := by
  obtain ⟨added, hl, hn⟩ := h.log
  have : proj f sid added = [] := by
    refine List.flatMap_eq_nil_iff.mpr fun e he => ?_
    split
    · exact hf _ (hn e he)
    · rfl
  rw [hl, proj_append, this, List.append_nil]

/-- an update that leaves the log and the options alone, and the sessions, the registry and the fault record
    unless `M` lets it do otherwise; by default one that leaves the transports, the writer tasks, the requests, the
    session records and the clock alone as well -/
theorem only_fields (w' : World) (h : Only M w0 w) (hl : w'.slog = w.slog := by rfl) (ho : w'.o = w.o := by rfl)
    (hs : ¬ M.create → w'.socks.size = w.socks.size := by exact fun _ => rfl)
    (hr : ¬ M.create → ∀ sid ∈ w'.registry, sid ∈ w.registry := by exact fun _ _ h => h)
    (hf : ¬ M.hang → w'.fault = w.fault := by exact fun _ => rfl)
    (hc : ¬ M.poll → Calm w w' := by exact fun _ => calm_fields _ (.refl _))
    (hb : ¬ M.clock → Beats w w' := by exact fun _ => beats_fields _ _) : Only M w0 w' :=
  h.trans ⟨ho, ⟨[], hl.trans (List.append_nil _).symm, fun _ h => absurd h List.not_mem_nil⟩, hs, hr, hf, hc, hb⟩

/-- `only_fields` for an update of the transport table or the task queue that is not calm: it needs the licence `poll` -/
theorem only_stir (hp : M.poll) (w' : World) (h : Only M w0 w) (hl : w'.slog = w.slog := by rfl) (ho : w'.o = w.o := by rfl)
    (hs : ¬ M.create → w'.socks.size = w.socks.size := by exact fun _ => rfl)
    (hr : ¬ M.create → ∀ sid ∈ w'.registry, sid ∈ w.registry := by exact fun _ _ h => h)
    (hf : ¬ M.hang → w'.fault = w.fault := by exact fun _ => rfl)
    (hb : ¬ M.clock → Beats w w' := by exact fun _ => beats_fields _ _) : Only M w0 w' :=
  only_fields w' h hl ho hs hr hf (fun n => absurd hp n) hb

theorem only_setTr (i : Nat) (f : Tr → Tr) (h : Only M w0 w)
    (hf : ∀ t, (f t).isPolling = t.isPolling ∧ (f t).req = t.req ∧ (f t).writable = t.writable := by exact fun _ => ⟨rfl, rfl, rfl⟩) :
    Only M w0 (w.setTr i f) := only_fields _ h (hc := fun _ => calm_setTr i f (.refl w) hf)

/-- an update of a transport that registers or clears its poll or switches `writable`: it needs the licence `poll` -/
theorem only_poke (hp : M.poll) (i : Nat) (f : Tr → Tr) (h : Only M w0 w) : Only M w0 (w.setTr i f) := only_stir hp _ h

/-- by default an update of a session that keeps what the heartbeat condition reads (the default generalizes the
    session before it says `rfl`: against the session of a concrete world `rfl` is slow) -/
theorem only_setSock (i : Nat) (f : Sock → Sock) (h : Only M w0 w)
    (hf : ∀ lax, i < w.socks.size → HBS lax w.o w.now (w.sock i) → HBS lax w.o w.now (f (w.sock i)) := by
      intro _ _ hs; generalize World.sock _ _ = s at hs ⊢; exact hs.same rfl rfl rfl rfl rfl) : Only M w0 (w.setSock i f) :=
  only_fields _ h (hs := fun _ => socks_size_setSock w i f) (hb := fun _ => beats_setSock w i f hf)

/-- an update of a session in the callback of a heartbeat timer, which cancels one timer before it arms the next: it
    needs the licence `clock` -/
theorem only_tick (hk : M.clock) (i : Nat) (f : Sock → Sock) (h : Only M w0 w) : Only M w0 (w.setSock i f) :=
  only_fields _ h (hs := fun _ => socks_size_setSock w i f) (hb := fun n => absurd hk n)

theorem only_setConn (i : Nat) (f : Conn → Conn) (h : Only M w0 w) : Only M w0 (w.setConn i f) := only_fields _ h
theorem only_ev (s : String) (h : Only M w0 w) : Only M w0 (w.ev s) := only_fields _ h

theorem only_setReq (i : Nat) (f : Req → Req) (h : Only M w0 w)
    (hf : ∀ q, q.done = true → (f q).done = true := by exact fun _ a => a) : Only M w0 (w.setReq i f) :=
  only_fields _ h (hc := fun _ => calm_setReq i f (.refl w) hf)

theorem only_pushReq (q : Req) (h : Only M w0 w) : Only M w0 ({ w with reqs := w.reqs.push q } : World) :=
  only_fields _ h (hc := fun _ => calm_pushReq q (.refl w))

theorem only_trSend (ti : Nat) (b : List Pkt) (h : Only M w0 w) : Only M w0 (trSend w ti b) :=
  only_fields _ h (hc := fun _ => calm_trSend ti b (.refl w))

theorem only_sev (sid : Nat) (e : SEv) (he : M.log e) (h : Only M w0 w) : Only M w0 (w.sev sid e) := by
  refine h.trans ⟨?_, ⟨[(sid, e)], slog_sev w sid e, fun x hx => ?_⟩, fun _ => by rw [socks_sev],
    fun _ s hs => registry_sev w sid e ▸ hs, ?_, fun _ => calm_sev sid e (.refl w),
    fun _ => beats_fields _ _ (socks_sev w sid e) (now_sev w sid e) (o_sev w sid e)⟩
  · unfold World.sev; dsimp only; split <;> rfl
  · cases List.mem_singleton.mp hx; exact he
  · intro _; unfold World.sev; dsimp only; split <;> rfl

theorem only_answer (r : Nat) (resp : Resp) (h : Only M w0 w) : Only M w0 (w.answer r resp) := by
  unfold World.answer; split
  · exact h
  · exact only_setReq _ _ (only_ev _ h) fun _ _ => rfl

theorem only_abortData (d : Option Nat) (h : Only M w0 w) : Only M w0 (abortData w d) := by
  unfold abortData; split
  · exact only_answer _ _ h
  · exact h

theorem only_candCleanup (sid : Nat) (h : Only M w0 w) : Only M w0 (candCleanup w sid) := by
  unfold candCleanup; split
  · exact h
  · exact only_setTr _ _ (only_setSock _ _ h)

theorem only_emitHeaders (ti r : Nat) (h : Only M w0 w) : Only M w0 (emitHeaders w ti r) :=
  emitHeaders_ind ti r (fun _ _ h => only_setReq _ _ h) (fun _ _ h => only_ev _ h) h

theorem only_rejectReq (r code : Nat) (msg : String) (h : Only M w0 w) : Only M w0 (rejectReq w r code msg) :=
  only_answer _ _ (only_ev _ h)

theorem only_observe (h : Only M w0 w) : Only M w0 (observe w) := by
  unfold observe
  refine foldl_ind (fun _ _ h => only_setConn _ _ h) (foldl_ind (fun _ _ h => ?_) (only_fields _ h))
  exact ite_ind (fun _ => only_setReq _ _ h) fun _ => h

theorem only_wsCandidate (hp : M.poll) (sid proto : Nat) (b64 : Bool) (h : Only M w0 w) : Only M w0 (wsCandidate w sid proto b64) := by
  unfold wsCandidate
  have h0 : Only M w0 ({ w with conns := w.conns.push {} } : World) := only_fields _ h
  dsimp only
  refine ite_ind (fun _ => only_setConn _ _ (only_setConn _ _ h0)) fun _ => ?_
  split
  · exact only_setConn _ _ (only_setConn _ _ (only_ev _ h0))
  · exact ite_ind (fun _ => only_setConn _ _ h0) fun _ => only_setSock _ _ (only_stir hp _ h0)

theorem only_wtCandidate (hp : M.poll) (sid : Nat) (h : Only M w0 w) : Only M w0 (wtCandidate w sid) := by
  unfold wtCandidate
  have h0 : Only M w0 ({ w with conns := w.conns.push { wt := true } } : World) := only_fields _ h
  dsimp only; split
  · exact only_setConn _ _ h0
  · exact ite_ind (fun _ => only_setConn _ _ h0) fun _ => only_setSock _ _ (only_stir hp _ h0)

theorem only_register (hc : M.create) (sid : Nat) (h : Only M w0 w) :
    Only M w0 ({ w with registry := w.registry ++ [sid] } : World) :=
  only_fields _ h (hr := fun hn => absurd hc hn)

/-- what a handshake needs a licence for: the new session record, its open packet and initial packet, its
    `connection` entry -/
structure Opens (M : May) : Prop where
  create : M.create
  packetCreate : ∀ p, M.log (.packetCreate p none)
  connection : ∀ rs n pr, M.log (.connection rs n pr)

/-- the first timer of a session: the deadline (revision 3) or the next ping, before the session is announced -/
theorem only_openAnnounce (sid : Nat) (nm : String) (proto : Nat) (ho : Opens M) (hnc : (w.sock sid).rs ≠ .closed)
    (h : Only M w0 w) : Only M w0 (openAnnounce w sid nm proto) := by
  unfold openAnnounce
  generalize hw1 : w.setSock sid _ = w1
  have h1 : Only M w0 w1 := by
    subst w1
    refine only_setSock sid _ h fun _ _ hs => ?_
    split
    · exact hs.setDeadline hnc (Nat.le_refl _)
    · exact hs.setPing hnc (Nat.le_refl _)
  have ht : sid < w1.socks.size → (w1.sock sid).pingIntervalDue.isSome ∨ (w1.sock sid).pingTimeoutDue.isSome := fun hlt => by
    subst w1
    rw [sock_setSock, if_pos ⟨rfl, socks_size_setSock w sid _ ▸ hlt⟩]
    split
    · exact Or.inr rfl
    · exact Or.inl rfl
  exact only_sev _ _ (ho.connection _ _ _) (only_setSock sid _ (only_register ho.create _ h1)
    fun _ hlt hs => ⟨hs.closed, fun _ _ _ _ => ht hlt, hs.pingBound, hs.deadBound⟩)

theorem pollDecode_proto {t t' : Tr} (h : t'.proto = t.proto) (body : Bytes) (binary : Bool) :
    pollDecode t' body binary = pollDecode t body binary := by
  unfold pollDecode; rw [h]

/-- the close paths call each other: their ten statements at one fuel, proved together by induction on it -/
structure OnlyClose (M : May) (w0 : World) (f : Nat) : Prop where
  trEmitClose : ∀ w ti, Only M w0 w → Only M w0 (trEmitClose f w ti)
  trOnErrorF : ∀ w ti, Only M w0 w → Only M w0 (trOnErrorF f w ti)
  trOnCloseBaseF : ∀ w ti, Only M w0 w → Only M w0 (trOnCloseBaseF f w ti)
  pollOnCloseF : ∀ w ti, Only M w0 w → Only M w0 (pollOnCloseF f w ti)
  runCloseFnF : ∀ w ti, Only M w0 w → Only M w0 (runCloseFnF f w ti)
  wsCloseNowF : ∀ w ti, Only M w0 w → Only M w0 (wsCloseNowF f w ti)
  trCloseF : ∀ w ti fn, Only M w0 w → Only M w0 (trCloseF f w ti fn)
  clearTransportF : ∀ w sid, (¬ M.clock → sid < w.socks.size → (w.sock sid).rs = .closed ∨ (w.sock sid).upgraded = true) →
    Only M w0 w → Only M w0 (clearTransportF f w sid)
  candFail : ∀ w sid, Only M w0 w → Only M w0 (candFail f w sid)
  sockOnClose : ∀ w sid r, (∀ rs, M.log (.close r rs)) → Only M w0 w → Only M w0 (sockOnClose f w sid r)

/- From here on every lemma takes `hR : Routine M.log` as its first explicit argument. -/
variable (hR : Routine M.log)
include hR

theorem onlyClose (f : Nat) : OnlyClose M w0 f := by
  induction f with
  | zero =>
    constructor <;> intros
    · rw [trEmitClose]; assumption
    · rw [trOnErrorF]; assumption
    · rw [trOnCloseBaseF]; assumption
    · rw [pollOnCloseF]; assumption
    · rw [runCloseFnF]; assumption
    · rw [wsCloseNowF]; assumption
    · rw [trCloseF]; assumption
    · rw [clearTransportF]; assumption
    · rw [candFail]; exact only_candCleanup _ (by assumption)
    · rw [sockOnClose]; assumption
  | succ f ih =>
    constructor
    · intro w ti h
      rw [trEmitClose]; split
      · exact ih.sockOnClose _ _ _ hR.transport_close h
      · exact ih.candFail _ _ h
      · exact h
    · intro w ti h
      rw [trOnErrorF]; split
      · exact ih.sockOnClose _ _ _ hR.transport_error h
      · exact ih.candFail _ _ h
      · exact h
    · intro w ti h
      rw [trOnCloseBaseF]
      exact ite_ind (fun _ => h) fun _ => ih.trEmitClose _ _ (only_setTr _ _ h)
    · intro w ti h
      rw [pollOnCloseF]
      exact ih.trOnCloseBaseF _ _ (ite_ind (fun _ => only_trSend _ _ h) fun _ => h)
    · intro w ti h
      rw [runCloseFnF]; split
      · exact ih.sockOnClose _ _ _ hR.forced_close (only_setTr _ _ h)
      · exact only_setTr _ _ h
    · intro w ti h
      rw [wsCloseNowF]
      exact ih.trOnCloseBaseF _ _ (only_setConn _ _ (ih.runCloseFnF _ _ (only_setTr _ _ h)))
    · intro w ti fn h
      rw [trCloseF]
      refine ite_ind (fun _ => h) fun _ => ?_
      have h1 : Only M w0 (w.setTr ti fun t => { t with rs := .closing, closeFn := fn }) := only_setTr _ _ h
      refine ite_ind (fun _ => ?_) fun _ => ite_ind (fun _ => ih.wsCloseNowF _ _ h1) fun _ => only_setTr _ _ h1
      have h2 := only_abortData (w.tr ti).dataReq h1
      exact ite_ind (fun _ => ih.pollOnCloseF _ _ (ih.runCloseFnF _ _ (only_trSend _ _ h2))) fun _ =>
        ite_ind (fun _ => ih.pollOnCloseF _ _ (ih.runCloseFnF _ _ h2)) fun _ => only_setTr _ _ h2
    · intro w sid hx h
      rw [clearTransportF]
      -- the deadline is cancelled: of a session that is closed, or upgraded; the detached close has not touched it
      have d := det_trCloseF (w := w.setTr (w.sock sid).tr fun t => { t with role := .none, silenced := true })
        (tr_setTr_role_none _ _ _ fun _ => rfl) f (Detached.refl _ _)
      refine only_fields _ (ih.trCloseF _ _ _ (only_setTr _ _ h)) (hs := fun _ => socks_size_setSock _ _ _)
        (hb := fun nk => beats_setSock _ _ _ fun lax hlt hs => ?_)
      rw [d.sock, sock_setTr] at hs ⊢
      refine hs.clearDeadline fun _ _ b c => ?_
      rcases hx nk (d.socks ▸ hlt) with hx | hx
      · exact absurd hx b
      · rw [hx] at c; cases c
    · intro w sid h
      rw [candFail]; split
      · exact h
      · exact ih.trCloseF _ _ _ (only_candCleanup _ h)
    · intro w sid r hr h
      rw [sockOnClose]
      refine ite_ind (fun _ => h) fun _ => only_setSock _ _ (ih.candFail _ _ (only_sev _ _ (hr _) ?_))
      -- the session leaves the registry
      refine only_fields _ (ih.clearTransportF _ _ (fun _ hlt => Or.inl ?_) (only_setSock _ _ h fun _ _ _ => ?_))
        (hr := fun _ s hs => (List.mem_filter.mp hs).1)
      · rw [sock_setSock, if_pos ⟨rfl, socks_size_setSock w sid _ ▸ hlt⟩]
      · exact ⟨fun _ => ⟨rfl, rfl⟩, fun _ _ b _ => absurd rfl b, nofun, nofun⟩

theorem only_sockOnClose (f sid : Nat) (r : String) (hr : ∀ rs, M.log (.close r rs)) (h : Only M w0 w) :
    Only M w0 (sockOnClose f w sid r) := (onlyClose hR f).sockOnClose _ _ _ hr h
theorem only_clearTransport (sid : Nat) (hx : ¬ M.clock → sid < w.socks.size → (w.sock sid).rs = .closed ∨ (w.sock sid).upgraded = true)
    (h : Only M w0 w) : Only M w0 (clearTransport w sid) := (onlyClose hR _).clearTransportF _ _ hx h
theorem only_trOnError (ti : Nat) (h : Only M w0 w) : Only M w0 (trOnError w ti) := (onlyClose hR _).trOnErrorF _ _ h
theorem only_trOnCloseBase (ti : Nat) (h : Only M w0 w) : Only M w0 (trOnCloseBase w ti) := (onlyClose hR _).trOnCloseBaseF _ _ h
theorem only_pollOnClose (ti : Nat) (h : Only M w0 w) : Only M w0 (pollOnClose w ti) := (onlyClose hR _).pollOnCloseF _ _ h
theorem only_runCloseFn (ti : Nat) (h : Only M w0 w) : Only M w0 (runCloseFn w ti) := (onlyClose hR _).runCloseFnF _ _ h
theorem only_wsCloseNow (ti : Nat) (h : Only M w0 w) : Only M w0 (wsCloseNow w ti) := (onlyClose hR _).wsCloseNowF _ _ h
theorem only_trClose (ti : Nat) (fn : Option Nat) (h : Only M w0 w) : Only M w0 (trClose w ti fn) := (onlyClose hR _).trCloseF _ _ _ h

theorem only_closeTransportF (f sid : Nat) (d : Bool) (h : Only M w0 w) : Only M w0 (closeTransportF f w sid d) := by
  cases f with
  | zero => rw [closeTransportF]; exact h
  | succ f =>
    rw [closeTransportF]
    have h1 : Only M w0 (if d = true then w.setTr (w.sock sid).tr fun t => { t with discarded := true } else w) :=
      ite_ind (fun _ => only_setTr _ _ h) fun _ => h
    exact ite_ind (fun _ => only_sockOnClose hR _ _ _ hR.forced_close h1) fun _ => only_trClose hR _ _ h1

theorem only_flushF (f sid : Nat) (h : Only M w0 w) : Only M w0 (flushF f w sid) := by
  cases f with
  | zero => rw [flushF]; exact h
  | succ f =>
    rw [flushF]
    refine ite_ind (fun _ => h) fun _ => only_ev _ ?_
    generalize hd : World.sev _ sid SEv.drain = wd
    have h1 : Only M w0 wd :=
      hd ▸ only_sev _ _ hR.drain (only_trSend _ _ (only_ev _ (only_sev _ _ (hR.flush _ _) (only_setSock _ _ h))))
    split
    · exact only_closeTransportF hR _ _ _ (only_setSock _ _ h1)
    · exact h1

theorem only_flush (sid : Nat) (h : Only M w0 w) : Only M w0 (flush w sid) := only_flushF hR _ sid h

theorem only_closeTransport (sid : Nat) (d : Bool) (h : Only M w0 w) : Only M w0 (closeTransport w sid d) :=
  only_closeTransportF hR _ sid d h

theorem only_sendPacket (sid : Nat) (p : Pkt) (cb : Option Nat) (hp : M.log (.packetCreate p cb)) (h : Only M w0 w) :
    Only M w0 (sendPacket w sid p cb) := by
  unfold sendPacket
  exact ite_ind (fun _ => h) fun _ => only_flush hR _ (only_setSock _ _ (only_sev _ _ hp h))

theorem only_sockOnDrain (sid : Nat) (h : Only M w0 w) : Only M w0 (sockOnDrain w sid) := by
  unfold sockOnDrain; split
  · exact h
  · exact foldl_ind (fun _ id h => only_sev _ _ (hR.cb id) h) (only_setSock _ _ h)

theorem only_trEmitDrain (ti : Nat) (h : Only M w0 w) : Only M w0 (trEmitDrain w ti) := by
  unfold trEmitDrain
  have h1 : Only M w0 (match (w.tr ti).role with | .current sid => sockOnDrain w sid | _ => w) := by
    split
    · exact only_sockOnDrain hR _ h
    · exact h
  exact ite_ind (fun _ => only_wsCloseNow hR _ h1) fun _ => h1

theorem only_trEmitReady (ti : Nat) (h : Only M w0 w) : Only M w0 (trEmitReady w ti) := by
  unfold trEmitReady; split
  · exact only_flush hR _ h
  · exact h

/-- the upgrade cancels the deadline of the session it marks as upgraded -/
theorem only_doUpgrade (sid newTr : Nat) (hu : M.log .upgrade) (h : Only M w0 w) : Only M w0 (doUpgrade w sid newTr) := by
  unfold doUpgrade; dsimp only
  have h1 := only_candCleanup sid h
  generalize candCleanup w sid = wa at h1 ⊢
  generalize hf : flush _ sid = wf
  have h2 : Only M w0 wf := by
    subst wf
    refine only_flush hR _ (only_sev _ _ hu (only_setTr _ _ (only_setSock _ _
      (only_clearTransport hR _ (fun _ hlt => Or.inr ?_) (only_setSock _ _ (only_setTr _ _ h1) fun _ _ hs => ?_)))))
    · rw [sock_setSock, if_pos ⟨rfl, socks_size_setSock _ sid _ ▸ hlt⟩]
    · exact ⟨hs.closed, fun _ _ _ c => (nomatch c), hs.pingBound, hs.deadBound⟩
  exact ite_ind (fun _ => only_trClose hR _ _ h2) fun _ => h2

/-- what a packet `p`, handed to a session or to its upgrade candidate, may log beyond the routine entries -/
structure Takes (P : SEv → Prop) (p : Pkt) : Prop where
  ping : p.typ = .ping → P (.packetCreate { typ := .pong, compress := true } none) ∧ P .heartbeat
  pong : p.typ = .pong → P .heartbeat
  error : p.typ = .error → ∀ rs, P (.close "parse_error" rs)
  message : p.typ = .message → P (.message p.data)
  upgrade : p.typ = .upgrade → P .upgrade

theorem only_candOnPacket (sid : Nat) (p : Pkt) (hu : p.typ = .upgrade → M.log .upgrade) (h : Only M w0 w) :
    Only M w0 (candOnPacket w sid p) := by
  unfold candOnPacket; split
  · exact h
  · refine ite_ind (fun _ => only_setSock _ _ (only_sev _ _ hR.upgrading (only_trSend _ _ h))) fun _ => ?_
    exact ite_ind (fun hp => only_doUpgrade hR _ _ (hu hp.1) h) fun _ => only_trClose hR _ _ (only_candCleanup _ h)

/-- a revision-3 ping moves the deadline to interval + timeout from the clock; a revision-4 pong cancels it and schedules
    the next ping one interval from the clock -/
theorem only_sockOnPacket (sid : Nat) (p : Pkt) (hp : Takes M.log p) (h : Only M w0 w) :
    Only M w0 (sockOnPacket w sid p) := by
  unfold sockOnPacket
  refine ite_ind (fun _ => h) fun ho => ?_
  have h1 := only_sev sid (.packet p.typ) (hR.packet _) h
  have hnc : ((w.sev sid (.packet p.typ)).sock sid).rs ≠ .closed := by
    rw [sock_sev, Decidable.not_not.mp ho]; decide
  split
  · rename_i hty
    refine ite_ind (fun _ => only_sockOnClose hR _ _ _ hR.transport_error h1) fun _ => ?_
    exact only_sev _ _ (hp.ping hty).2 (only_sendPacket hR _ _ _ (hp.ping hty).1
      (only_setSock _ _ h1 fun _ _ hs => hs.setDeadline hnc (Nat.le_refl _)))
  · rename_i hty
    refine ite_ind (fun _ => only_sockOnClose hR _ _ _ hR.transport_error h1) fun _ => ?_
    refine only_sev _ _ (hp.pong hty) (only_setSock _ _ h1 fun _ _ hs => ?_)
    exact ⟨fun hc => absurd hc hnc, fun _ _ _ _ => Or.inl rfl, fun _ e => Option.some.inj e ▸ Nat.le_refl _, nofun⟩
  · rename_i hty
    exact only_sockOnClose hR _ _ _ (hp.error hty) h1
  · rename_i hty
    exact only_sev _ _ (hp.message hty) h1
  · exact h1

theorem only_trEmitPacket (ti : Nat) (p : Pkt) (hp : Takes M.log p) (h : Only M w0 w) :
    Only M w0 (trEmitPacket w ti p) := by
  unfold trEmitPacket; split
  · exact only_sockOnPacket hR _ _ hp h
  · exact only_candOnPacket hR _ _ hp.upgrade h
  · exact h

theorem only_runPollSend (hp : M.poll) (ti : Nat) (batch : List Pkt) (h : Only M w0 w) : Only M w0 (runPollSend w ti batch) := by
  unfold runPollSend
  have h1 : Only M w0 (if (w.tr ti).shouldClose = true then
      pollOnClose (runCloseFn (w.setTr ti fun t => { t with shouldClose := false, closeTimerDue := none }) ti) ti else w) :=
    ite_ind (fun _ => only_pollOnClose hR _ (only_runCloseFn hR _ (only_setTr _ _ h))) fun _ => h
  dsimp only
  generalize (if (w.tr ti).shouldClose = true then
      pollOnClose (runCloseFn (w.setTr ti fun t => { t with shouldClose := false, closeTimerDue := none }) ti) ti else w) = w1 at h1 ⊢
  split
  · exact only_trOnError hR _ h1
  · exact only_trEmitDrain hR _ (only_answer _ _ (only_emitHeaders _ _ (only_poke hp _ _ h1)))

theorem only_wsSendLoop (ti : Nat) (batch : List Pkt) (h : Only M w0 w) : Only M w0 (wsSendLoop ti batch w) :=
  wsSendLoop_ind ti (fun _ _ h => only_setConn _ _ h) (fun _ h => only_trOnError hR _ h) batch h

theorem only_runWsSend (hp : M.poll) (ti : Nat) (batch : List Pkt) (h : Only M w0 w) : Only M w0 (runWsSend w ti batch) := by
  unfold runWsSend
  exact only_trEmitReady hR _ (only_poke hp _ _ (only_trEmitDrain hR _ (only_wsSendLoop hR ti batch h)))

theorem only_runTask (hp : M.poll) (t : Task) (h : Only M w0 w) : Only M w0 (runTask w t) := by
  cases t with
  | pollSend ti b => rw [runTask]; exact only_runPollSend hR hp ti b h
  | wsSend ti b => rw [runTask]; exact only_runWsSend hR hp ti b h

theorem only_settle (hp : M.poll) (f : Nat) (h : Only M w0 w) : Only M w0 (settle f w) :=
  settle_ind (fun _ _ _ _ h => only_runTask hR hp _ (only_stir hp _ h)) f h

theorem only_openPackets (sid : Nat) (nm : String) (hp : ∀ p, M.log (.packetCreate p none)) (h : Only M w0 w) :
    Only M w0 (openPackets w sid nm) := by
  unfold openPackets
  have h1 := only_sendPacket hR sid _ none (hp { typ := .open, data := some ⟨.text, jsonOpen w sid nm⟩, compress := true }) h
  dsimp only; split
  · exact only_sendPacket hR _ _ _ (hp _) h1
  · exact h1

theorem only_openSession (ti proto : Nat) (ho : Opens M) (h : Only M w0 w) : Only M w0 (openSession w ti proto) := by
  unfold openSession; dsimp only
  generalize hw1 : World.setTr _ ti _ = w1
  have e1 : w1.sock w.socks.size = { proto, tr := ti } := by subst w1; exact getD_push_eq _ _ _
  have z1 : w.socks.size < w1.socks.size := by subst w1; simp
  have h1 : Only M w0 w1 := by
    subst w1
    exact only_setTr _ _ (only_fields _ h (hs := fun hn => absurd ho.create hn)
      (hb := fun _ => beats_pushSock _ _ fun _ => .fresh nofun rfl rfl rfl))
  generalize hw2 : w1.setSock w.socks.size _ = w2
  have e2 : w2.sock w.socks.size = { proto, tr := ti, rs := .open_ } := by
    subst w2; rw [sock_setSock, if_pos ⟨rfl, z1⟩, e1]
  have h2 : Only M w0 w2 := by
    subst w2
    refine only_setSock _ _ h1 fun _ _ _ => ?_
    rw [e1]; exact .fresh nofun rfl rfl rfl
  refine only_openAnnounce _ _ _ ho ?_ (only_openPackets hR _ _ ho.packetCreate h2)
  rw [(openPackets_quiet w2 _ _ (by rw [e2])).rs, e2]; nofun

theorem only_onPollRequest (hp : M.poll) (ti r : Nat) (h : Only M w0 w) : Only M w0 (onPollRequest w ti r) := by
  unfold onPollRequest
  refine ite_ind (fun _ => only_answer _ _ (only_trOnError hR _ h)) fun _ => ?_
  have h1 := only_trEmitReady hR ti (only_setReq r (fun q => { q with pollOf := some ti })
    (only_poke hp ti (fun t => { t with req := some r, writable := true }) h))
  exact ite_ind (fun _ => only_trSend _ _ h1) fun _ => h1

theorem only_hsPolling (proto : Nat) (b64 : Bool) (j : Option Bytes) (ho : Opens M) (hp : M.poll) (h : Only M w0 w) :
    Only M w0 (hsPolling w proto b64 j) := by
  unfold hsPolling
  have h0 : Only M w0 ({ w with reqs := w.reqs.push { hasSid := false } } : World) := only_pushReq _ h
  dsimp only
  refine ite_ind (fun _ => only_rejectReq _ _ _ h0) fun _ => ite_ind (fun _ => only_rejectReq _ _ _ h0) fun _ => ?_
  exact only_openSession hR _ _ ho (only_onPollRequest hR hp _ _ (only_stir hp _ h0))

theorem only_hsWebsocket (proto : Nat) (b64 : Bool) (ho : Opens M) (hp : M.poll) (h : Only M w0 w) :
    Only M w0 (hsWebsocket w proto b64) := by
  unfold hsWebsocket
  have h0 : Only M w0 ({ w with conns := w.conns.push {} } : World) := only_fields _ h
  dsimp only
  refine ite_ind (fun _ => only_setConn _ _ h0) fun _ => ite_ind (fun _ => only_setConn _ _ (only_ev _ h0)) fun _ => ?_
  exact only_openSession hR _ _ ho (only_stir hp _ h0)

theorem only_hsWt (ho : Opens M) (hp : M.poll) (h : Only M w0 w) : Only M w0 (hsWt w) := by
  unfold hsWt
  exact only_openSession hR _ _ ho (only_stir hp _ (only_fields (w := w) { w with conns := w.conns.push { wt := true } } h))

theorem only_pollReq (hp : M.poll) (sid : Nat) (ae : Bytes) (h : Only M w0 w) : Only M w0 (pollReq w sid ae) := by
  unfold pollReq
  have h0 : Only M w0 ({ w with reqs := w.reqs.push { ae } } : World) := only_pushReq _ h
  dsimp only; split
  · exact only_rejectReq _ _ _ h0
  · exact ite_ind (fun _ => only_rejectReq _ _ _ h0) fun _ => only_onPollRequest hR hp _ _ h0

theorem only_pollDeliver (ti : Nat) (pkts : List Pkt) (hp : ∀ p ∈ pkts, Takes M.log p) (h : Only M w0 w) :
    Only M w0 (pollDeliver ti pkts w) :=
  pollDeliver_ind ti pkts (fun _ h => only_pollOnClose hR _ h) (fun _ p hm h => only_trEmitPacket hR _ _ (hp p hm) h) h

/-- the licence a decoder outcome needs: that of its packets, or that of the hang -/
def Decodes (M : May) : Decoded → Prop
  | .ok pkts => ∀ p ∈ pkts, Takes M.log p
  | .panic => True
  | .spin => M.hang

theorem only_pollOnData (ti : Nat) (body : Bytes) (binary : Bool) (hd : Decodes M (pollDecode (w.tr ti) body binary))
    (h : Only M w0 w) : Only M w0 (pollOnData w ti body binary).1 := by
  unfold pollOnData; split
  · rename_i hdec; rw [hdec] at hd; exact only_pollDeliver hR _ _ hd h
  · exact h
  · rename_i hdec; rw [hdec] at hd
    exact only_fields _ h (hf := fun hn => absurd hd hn)

/-- a data request: besides the routine, what the decoder makes of the body — which is reached only by a body within
    the limit, and not by a binary body on a revision-4 session -/
theorem only_postReq (sid : Nat) (binary declared : Bool) (body : Bytes) (vj : Bool)
    (hd : ∀ d, ¬ (binary = true ∧ (w.tr (w.sock sid).tr).proto = 4) → body.length ≤ w.o.maxPayload →
      (if vj = true then (formFieldD body).map jsonpUnescape else some body) = some d →
      Decodes M (pollDecode (w.tr (w.sock sid).tr) d binary))
    (h : Only M w0 w) : Only M w0 (postReq w sid binary declared body vj) := by
  unfold postReq
  have h0 : Only M w0 ({ w with reqs := w.reqs.push { isPost := true, consumed := some 0 } } : World) := only_pushReq _ h
  dsimp only
  split
  · exact only_rejectReq _ _ _ h0
  · rename_i s hl
    have hs : s = w.sock sid := (lookup_reg _ _ _ hl).1
    subst hs
    refine ite_ind (fun _ => only_rejectReq _ _ _ h0) fun _ => ?_
    refine ite_ind (fun _ => only_answer _ _ (only_trOnError hR _ h0)) fun hb4 => ?_
    refine ite_ind (fun _ => only_answer _ _ h0) fun _ => ?_
    refine ite_ind (fun _ => only_answer _ _ (only_setReq _ _ h0)) fun hle => ?_
    have hlen : body.length ≤ w.o.maxPayload := by
      have : ¬ (min body.length (w.o.maxPayload + 1) > w.o.maxPayload) := hle
      omega
    generalize hw1 : World.setTr _ (w.sock sid).tr _ = w1
    have h1 : Only M w0 w1 := by subst w1; exact only_setTr _ _ (only_setReq _ _ h0)
    have hp1 : (w1.tr (w.sock sid).tr).proto = (w.tr (w.sock sid).tr).proto := by
      subst w1; rw [tr_setTr]; split <;> rfl
    refine ite_ind (fun _ => only_trOnError hR _ (only_setReq _ _ (only_setTr _ _ ?_) fun _ _ => rfl)) fun _ =>
      only_answer _ _ (only_emitHeaders _ _ (only_setTr _ _ ?_))
    all_goals
      split
      · rename_i d hdd
        exact only_pollOnData hR _ _ _ (pollDecode_proto hp1 d binary ▸ hd d hb4 hlen hdd) h1
      · exact h1

theorem only_abortReq (hp : M.poll) (r : Nat) (h : Only M w0 w) : Only M w0 (abortReq w r) := by
  unfold abortReq
  refine ite_ind (fun _ => h) fun _ => ?_
  have h1 : Only M w0 (w.setReq r fun q => { q with done := true }) := only_setReq _ _ h fun _ _ => rfl
  dsimp only; split
  · exact ite_ind (fun _ => only_trOnError hR _ (only_poke hp _ _ h1)) fun _ => h1
  · exact h1

theorem only_wsFrame (c : Nat) (m : Msg)
    (hp : ∀ ti, trOfConn w c = some ti → m.data.length ≤ w.o.maxPayload →
      Takes M.log (if (w.tr ti).proto = 3 then decodePacketV3 m else decodePacketV4 m).1)
    (h : Only M w0 w) : Only M w0 (wsFrame w c m).1 := by
  rw [wsFrame_fst]
  refine ite_ind (fun _ => h) fun _ => ?_
  split
  · exact h
  · rename_i ti hti
    exact ite_ind (fun _ => only_trOnError hR _ (only_setConn _ _ h)) fun hle =>
      only_trEmitPacket hR _ _ (hp ti hti (Nat.le_of_not_gt hle)) h

theorem only_wsDrop (c : Nat) (h : Only M w0 w) : Only M w0 (wsDrop w c) := by
  unfold wsDrop
  refine ite_ind (fun _ => only_setConn _ _ h) fun _ => ?_
  dsimp only; split
  · exact ite_ind (fun _ => only_trOnError hR _ (only_setConn _ _ (only_setConn _ _ h))) fun _ =>
      only_trOnCloseBase hR _ (only_setConn _ _ (only_setConn _ _ h))
  · exact only_setConn _ _ (only_setConn _ _ h)

theorem only_appClose (sid : Nat) (discard : Bool) (h : Only M w0 w) : Only M w0 (appClose w sid discard) := by
  unfold appClose
  refine ite_ind (fun _ => only_closeTransport hR _ _ h) fun _ => ite_ind (fun _ => h) fun ho => ?_
  have h1 : Only M w0 (w.setSock sid fun s => { s with rs := .closing }) := by
    refine only_setSock sid _ h fun _ _ hs => ?_
    refine ⟨nofun, fun hl a _ c => hs.pending hl a ?_ c, hs.pingBound, hs.deadBound⟩
    rw [Decidable.not_not.mp ho]; decide
  exact ite_ind (fun _ => only_setSock _ _ h1) fun _ => only_closeTransport hR _ _ h1

theorem only_shutdown (h : Only M w0 w) : Only M w0 (shutdown w) :=
  foldl_ind (fun _ _ h => only_appClose hR _ _ h) h

theorem only_appSend (sid : Nat) (m : Msg) (compress wantCb : Bool) (pre : Option Msg)
    (hp : ∀ p cb, M.log (.packetCreate p cb)) (h : Only M w0 w) : Only M w0 (appSend w sid m compress wantCb pre) := by
  unfold appSend
  exact only_sendPacket hR _ _ _ (hp _ _) (ite_ind (fun _ => only_fields _ h) fun _ => h)

/-- what firing a timer may log beyond the routine: the ping, or the close for ping timeout -/
structure Fires (P : SEv → Prop) (id : TimerId) : Prop where
  ping : ∀ s, id = .pingInterval s → P (.packetCreate { typ := .ping, compress := true } none)
  timeout : ∀ s, id = .pingTimeout s → ∀ rs, P (.close "ping_timeout" rs)

theorem only_fireTimer (id : TimerId) (hf : Fires M.log id) (hk : ∀ s, id = .pingInterval s ∨ id = .pingTimeout s → M.clock)
    (h : Only M w0 w) : Only M w0 (fireTimer w id) := by
  cases id with
  | pingInterval sid =>
    have k := hk sid (.inl rfl)
    exact only_tick k _ _ (only_sendPacket hR _ _ _ (hf.ping sid rfl) (only_tick k _ _ h))
  | pingTimeout sid =>
    have k := hk sid (.inr rfl)
    exact ite_ind (fun _ => only_tick k _ _ h) fun _ => only_sockOnClose hR _ _ _ (hf.timeout sid rfl) (only_tick k _ _ h)
  | closeTimer ti =>
    exact ite_ind (fun _ => only_pollOnClose hR _ (only_runCloseFn hR _ (only_setTr _ _ h))) fun _ =>
      only_wsCloseNow hR _ (only_setTr _ _ h)
  | upgradeTimeout sid =>
    rw [fireTimer]; split
    · exact ite_ind (fun _ => only_trClose hR _ _ (only_candCleanup _ h)) fun _ => only_candCleanup _ h
    · exact h
  | check sid =>
    rw [fireTimer]; split
    · exact ite_ind (fun _ => only_trSend _ _ (only_setSock _ _ h)) fun _ => only_setSock _ _ h
    · exact h

/-- the timers `advance` fires, in order: due instant, timer, and the world each is fired in (its clock already moved) -/
def advFirings : Nat → World → Nat → List (Nat × TimerId × World)
  | 0, _, _ => []
  | fuel + 1, w, target =>
    match earliest (dueTimers w) target with
    | some (d, id) => (d, id, { w with now := max w.now d }) :: advFirings fuel (fireTimer { w with now := max w.now d } id) target
    | none => []

theorem only_advance (hk : M.clock) (f : Nat) (target : Nat) (hf : ∀ x ∈ advFirings f w target, Fires M.log x.2.1) (h : Only M w0 w) :
    Only M w0 (advance f w target) := by
  induction f generalizing w with
  | zero => exact only_fields _ h (hb := fun n => absurd hk n)
  | succ f ih =>
    rw [advance]
    rw [advFirings] at hf
    split
    · rename_i d id he
      rw [he] at hf
      exact ih (fun x hx => hf x (List.mem_cons_of_mem _ hx)) (only_fireTimer hR id (hf _ List.mem_cons_self) (fun _ _ => hk)
        (only_fields _ h (hb := fun n => absurd hk n)))
    · exact only_fields _ h (hb := fun n => absurd hk n)

/-- the operations by which a client submits packets -/
def Op.submits : Op → Bool
  | .post .. => true
  | .frame .. => true
  | _ => false

/-- a data request whose content type is binary -/
def Op.binaryPost : Op → Bool
  | .post _ binary _ _ _ => binary
  | _ => false

/-- what an operation needs a licence for beyond the routine entries -/
@[reducible] def May.covers (M : May) : Op → Prop
  | .hsPolling .. | .hsWebsocket .. | .hsWt => Opens M ∧ M.poll
  | .post _ binary _ _ _ => (binary = true → M.hang) ∧ ∀ p, Takes M.log p
  | .frame .. => ∀ p, Takes M.log p
  | .send .. => ∀ p cb, M.log (.packetCreate p cb)
  | .adv _ => M.clock ∧ ∀ id, Fires M.log id
  | .poll .. | .abort _ | .wsCandidate .. | .wtCandidate _ | .settle => M.poll
  | _ => True

theorem only_step (w : World) (op : Op) (hc : M.covers op) : Only M w (step w op) := by
  unfold step
  refine ite_ind (fun _ => Only.refl w) fun _ => ?_
  cases op with
  | hsPolling pr b j => exact only_hsPolling hR _ _ _ hc.1 hc.2 (Only.refl w)
  | hsWebsocket pr b => exact only_hsWebsocket hR _ _ hc.1 hc.2 (Only.refl w)
  | poll sid ae => exact only_pollReq hR hc _ _ (Only.refl w)
  | post sid bin decl body vj =>
    refine only_postReq hR _ _ _ _ _ (fun d _ _ _ => ?_) (Only.refl w)
    cases hdec : pollDecode (w.tr (w.sock sid).tr) d bin with
    | ok pkts => exact fun p _ => hc.2 p
    | panic => trivial
    | spin =>
      refine hc.1 ?_
      cases bin with
      | true => rfl
      | false => unfold pollDecode at hdec; split at hdec <;> cases hdec
  | abort r => exact only_abortReq hR hc _ (Only.refl w)
  | wsCandidate sid pr b => exact only_wsCandidate hc _ _ _ (Only.refl w)
  | hsWt => exact only_hsWt hR hc.1 hc.2 (Only.refl w)
  | wtCandidate sid => exact only_wtCandidate hc _ (Only.refl w)
  | frame c m => exact ite_ind (fun _ => Only.refl w) fun _ => only_wsFrame hR _ _ (fun _ _ _ => hc _) (Only.refl w)
  | drop c => exact only_wsDrop hR _ (Only.refl w)
  | closeFrame c code => exact only_wsDrop hR _ (only_setConn _ _ (Only.refl w))
  | send sid m c cb pre => exact only_appSend hR _ _ _ _ _ hc (Only.refl w)
  | close sid d => exact only_appClose hR _ _ (Only.refl w)
  | shutdown => exact only_shutdown hR (Only.refl w)
  | adv d => exact only_advance hR hc.1 _ _ (fun x _ => hc.2 x.2.1) (Only.refl w)
  | settle => exact only_settle hR hc _ (Only.refl w)
  | observe => exact only_observe (Only.refl w)
omit hR

/-- the operations that are calm: all but a handshake, a poll, an abort, a candidate, and running the writer tasks -/
def Op.calm : Op → Bool
  | .hsPolling .. | .hsWebsocket .. | .hsWt | .poll .. | .abort _ | .wsCandidate .. | .wtCandidate _ | .settle => false
  | _ => true

theorem May.covers_of_not_submits (ho : Opens M) (hq : M.poll) (hk : M.clock) (hp : ∀ p cb, M.log (.packetCreate p cb))
    (hf : ∀ id, Fires M.log id) : ∀ op : Op, op.submits = false → M.covers op
  | .hsPolling .., _ | .hsWebsocket .., _ | .hsWt, _ => ⟨ho, hq⟩
  | .send .., _ => hp
  | .adv _, _ => ⟨hk, hf⟩
  | .poll .., _ | .abort _, _ | .wsCandidate .., _ | .wtCandidate _, _ | .settle, _ => hq
  | .drop _, _ | .closeFrame .., _ | .close .., _ | .shutdown, _ | .observe, _ => trivial

theorem May.covers_of_full (ho : Opens M) (ht : ∀ p, Takes M.log p) (hp : ∀ p cb, M.log (.packetCreate p cb)) :
    ∀ op : Op, (op.binaryPost = true → M.hang) → (∀ d, op = .adv d → M.clock ∧ ∀ id, Fires M.log id) →
      (op.calm = false → M.poll) → M.covers op
  | .post .., hh, _, _ => ⟨hh, ht⟩
  | .frame .., _, _, _ => ht
  | .hsPolling .., _, _, hq | .hsWebsocket .., _, _, hq | .hsWt, _, _, hq => ⟨ho, hq rfl⟩
  | .send .., _, _, _ => hp
  | .adv d, _, hf, _ => hf d rfl
  | .poll .., _, _, hq | .abort _, _, _, hq | .wsCandidate .., _, _, hq | .wtCandidate _, _, _, hq | .settle, _, _, hq => hq rfl
  | .drop _, _, _, _ | .closeFrame .., _, _, _ | .close .., _, _, _ | .shutdown, _, _, _ | .observe, _, _, _ => trivial

theorem May.covers_of_all (hl : ∀ e, M.log e) (hc : M.create) (op : Op) (hh : op.binaryPost = true → M.hang)
    (hk : ∀ d, op = .adv d → M.clock) (hq : op.calm = false → M.poll) : M.covers op :=
  May.covers_of_full ⟨hc, fun _ => hl _, fun _ _ _ => hl _⟩
    (fun _ => ⟨fun _ => ⟨hl _, hl _⟩, fun _ => hl _, fun _ _ => hl _, fun _ => hl _, fun _ => hl _⟩) (fun _ _ => hl _) op hh
    (fun d e => ⟨hk d e, fun _ => ⟨fun _ _ => hl _, fun _ _ _ => hl _⟩⟩) hq

theorem routine_of_all {P : SEv → Prop} (hl : ∀ e, P e) : Routine P :=
  ⟨fun _ => hl _, fun _ => hl _, fun _ => hl _, fun _ _ => hl _, hl _, fun _ => hl _, fun _ => hl _, hl _⟩

/-- the licence for every entry that `bad` does not mark, for hangs, polls and the clock; for new sessions if `create` -/
def May.allBut (bad : SEv → Bool) (create : Prop := True) : May := ⟨fun e => bad e = false, create, True, True, True⟩

/-- for a `bad` that spares the routine entries, `packetCreate`, `connection` and `close ping_timeout` -/
theorem step_of_not_submits (bad : SEv → Bool) (hR : Routine (May.allBut bad).log) (hp : ∀ p cb, bad (.packetCreate p cb) = false)
    (hc : ∀ rs n pr, bad (.connection rs n pr) = false) (ht : ∀ rs, bad (.close "ping_timeout" rs) = false)
    (w : World) (op : Op) (h : op.submits = false) : Only (.allBut bad) w (step w op) :=
  only_step hR w op (May.covers_of_not_submits ⟨trivial, fun _ => hp _ _, hc⟩ trivial trivial hp
    (fun _ => ⟨fun _ _ => hp _ _, fun _ _ => ht⟩) op h)

def May.any : May := ⟨fun _ => True, True, True, True, True⟩

theorem step_any (w : World) (op : Op) : Only May.any w (step w op) :=
  only_step (routine_of_all fun _ => trivial) w op
    (May.covers_of_all (fun _ => trivial) trivial op (fun _ => trivial) (fun _ _ => trivial) fun _ => trivial)

/-- everything but the licence `poll` -/
def May.calm : May := { May.any with poll := False }

theorem routine_calm : Routine May.calm.log := routine_of_all fun _ => trivial

theorem Only.toCalm {w w' : World} (h : Only May.calm w w') : Calm w w' := h.calm id

theorem step_calm (w : World) (op : Op) (h : op.calm = true) : Calm w (step w op) :=
  (only_step routine_calm w op (May.covers_of_all (fun _ => trivial) trivial op (fun _ => trivial) (fun _ _ => trivial)
    fun e => Bool.noConfusion (h.symm.trans e))).toCalm

/-- everything but the licence `clock` -/
def May.still : May := { May.any with clock := False }

theorem routine_still : Routine May.still.log := routine_of_all fun _ => trivial

theorem Only.toBeats {w w' : World} (h : Only May.still w w') : Beats w w' := h.beats id

/-- every operation but the passing of time keeps the heartbeat condition of every session -/
theorem step_beats (w : World) (op : Op) (h : ∀ d, op ≠ .adv d) : Beats w (step w op) :=
  (only_step routine_still w op (May.covers_of_all (fun _ => trivial) trivial op (fun _ => trivial) (fun d e => absurd e (h d))
    fun _ => trivial)).toBeats

end EIO.Ses
