import EIO.Lemmas.Only
/-
Instances of `Only` that have a name of their own, with the functions they are stated for: no `packetCreate` entry
(`NPC`, for what `flush` calls), the options unchanged (`NO`, for what `sendPacket` calls), no `heartbeat` entry (`NH`), no
`upgrade` entry (`NU`), each of which also says that no session record was created; the fault record unchanged (`NFm`).
-/
namespace EIO.Ses
open EIO EIO.Codec

def SEv.isPC : SEv → Bool
  | .packetCreate _ _ => true
  | _ => false

structure NPC (w w' : World) : Prop where
  size : w'.socks.size = w.socks.size
  log : ∃ added, w'.slog = w.slog ++ added ∧ ∀ e ∈ added, e.2.isPC = false

theorem Only.npc {w w' : World} (h : Only (.allBut SEv.isPC False) w w') : NPC w w' := ⟨h.size id, h.log⟩

theorem NPC.trans {a b c : World} (h1 : NPC a b) (h2 : NPC b c) : NPC a c :=
  ⟨h2.size.trans h1.size, log_trans (P := (SEv.isPC · = false)) h1.log h2.log⟩

theorem routine_noPC : Routine (SEv.isPC · = false) := by constructor <;> intros <;> rfl

theorem npc_pushReq {w0 w : World} (q : Req) (h : NPC w0 w) : NPC w0 ({ w with reqs := w.reqs.push q } : World) := h.trans (only_pushReq q (Only.refl w)).npc
theorem npc_trOnError {w0 w : World} (ti : Nat) (h : NPC w0 w) : NPC w0 (trOnError w ti) := h.trans (only_trOnError routine_noPC ti (Only.refl w)).npc
theorem npc_trOnCloseBase {w0 w : World} (ti : Nat) (h : NPC w0 w) : NPC w0 (trOnCloseBase w ti) := h.trans (only_trOnCloseBase routine_noPC ti (Only.refl w)).npc
theorem npc_pollOnClose {w0 w : World} (ti : Nat) (h : NPC w0 w) : NPC w0 (pollOnClose w ti) := h.trans (only_pollOnClose routine_noPC ti (Only.refl w)).npc
theorem npc_runCloseFn {w0 w : World} (ti : Nat) (h : NPC w0 w) : NPC w0 (runCloseFn w ti) := h.trans (only_runCloseFn routine_noPC ti (Only.refl w)).npc
theorem npc_wsCloseNow {w0 w : World} (ti : Nat) (h : NPC w0 w) : NPC w0 (wsCloseNow w ti) := h.trans (only_wsCloseNow routine_noPC ti (Only.refl w)).npc
theorem npc_clearTransport {w0 w : World} (sid : Nat) (h : NPC w0 w) : NPC w0 (clearTransport w sid) := h.trans (only_clearTransport routine_noPC sid (fun n => absurd trivial n) (Only.refl w)).npc
theorem npc_closeTransport {w0 w : World} (sid : Nat) (d : Bool) (h : NPC w0 w) : NPC w0 (closeTransport w sid d) :=
  h.trans (only_closeTransport routine_noPC sid d (Only.refl w)).npc

def SEv.isNever : SEv → Bool := fun _ => false

structure NO (w w' : World) : Prop where
  o : w'.o = w.o
  size : w'.socks.size = w.socks.size
  log : ∃ added, w'.slog = w.slog ++ added ∧ ∀ e ∈ added, e.2.isNever = false

theorem Only.no {w w' : World} (h : Only (.allBut SEv.isNever False) w w') : NO w w' := ⟨h.o, h.size id, h.log⟩

theorem NO.trans {a b c : World} (h1 : NO a b) (h2 : NO b c) : NO a c :=
  ⟨h2.o.trans h1.o, h2.size.trans h1.size, log_trans (P := (SEv.isNever · = false)) h1.log h2.log⟩

theorem routine_never : Routine (SEv.isNever · = false) := routine_of_all fun _ => rfl

theorem no_pushReq {w0 w : World} (q : Req) (h : NO w0 w) : NO w0 ({ w with reqs := w.reqs.push q } : World) := h.trans (only_pushReq q (Only.refl w)).no
theorem no_trOnError {w0 w : World} (ti : Nat) (h : NO w0 w) : NO w0 (trOnError w ti) := h.trans (only_trOnError routine_never ti (Only.refl w)).no
theorem no_trOnCloseBase {w0 w : World} (ti : Nat) (h : NO w0 w) : NO w0 (trOnCloseBase w ti) := h.trans (only_trOnCloseBase routine_never ti (Only.refl w)).no
theorem no_pollOnClose {w0 w : World} (ti : Nat) (h : NO w0 w) : NO w0 (pollOnClose w ti) := h.trans (only_pollOnClose routine_never ti (Only.refl w)).no
theorem no_runCloseFn {w0 w : World} (ti : Nat) (h : NO w0 w) : NO w0 (runCloseFn w ti) := h.trans (only_runCloseFn routine_never ti (Only.refl w)).no
theorem no_wsCloseNow {w0 w : World} (ti : Nat) (h : NO w0 w) : NO w0 (wsCloseNow w ti) := h.trans (only_wsCloseNow routine_never ti (Only.refl w)).no
theorem no_clearTransport {w0 w : World} (sid : Nat) (h : NO w0 w) : NO w0 (clearTransport w sid) := h.trans (only_clearTransport routine_never sid (fun n => absurd trivial n) (Only.refl w)).no
theorem no_closeTransport {w0 w : World} (sid : Nat) (d : Bool) (h : NO w0 w) : NO w0 (closeTransport w sid d) :=
  h.trans (only_closeTransport routine_never sid d (Only.refl w)).no

def SEv.isHb : SEv → Bool
  | .heartbeat => true
  | _ => false

structure NH (w w' : World) : Prop where
  size : w'.socks.size = w.socks.size
  log : ∃ added, w'.slog = w.slog ++ added ∧ ∀ e ∈ added, e.2.isHb = false

theorem Only.nh {w w' : World} (h : Only (.allBut SEv.isHb False) w w') : NH w w' := ⟨h.size id, h.log⟩

theorem NH.trans {a b c : World} (h1 : NH a b) (h2 : NH b c) : NH a c :=
  ⟨h2.size.trans h1.size, log_trans (P := (SEv.isHb · = false)) h1.log h2.log⟩

theorem routine_noHb : Routine (SEv.isHb · = false) := by constructor <;> intros <;> rfl

theorem nh_candOnPacket {w0 w : World} (sid : Nat) (pk : Pkt) (h : NH w0 w) : NH w0 (candOnPacket w sid pk) :=
  h.trans (only_candOnPacket routine_noHb sid pk (fun _ => rfl) (Only.refl w)).nh

def SEv.isUpg : SEv → Bool
  | .upgrade => true
  | _ => false

structure NU (w w' : World) : Prop where
  size : w'.socks.size = w.socks.size
  log : ∃ added, w'.slog = w.slog ++ added ∧ ∀ e ∈ added, e.2.isUpg = false

theorem Only.nu {w w' : World} (h : Only (.allBut SEv.isUpg False) w w') : NU w w' := ⟨h.size id, h.log⟩

theorem NU.trans {a b c : World} (h1 : NU a b) (h2 : NU b c) : NU a c :=
  ⟨h2.size.trans h1.size, log_trans (P := (SEv.isUpg · = false)) h1.log h2.log⟩

theorem routine_noUpg : Routine (SEv.isUpg · = false) := by constructor <;> intros <;> rfl

theorem nu_clearTransport {w0 w : World} (sid : Nat) (h : NU w0 w) : NU w0 (clearTransport w sid) :=
  h.trans (only_clearTransport routine_noUpg sid (fun n => absurd trivial n) (Only.refl w)).nu

/-- the step left `fault` as it was -/
def NFm (w w' : World) : Prop := w'.fault = w.fault

theorem NFm.refl (w : World) : NFm w w := rfl

end EIO.Ses
