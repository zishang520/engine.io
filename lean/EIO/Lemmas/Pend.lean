import EIO.Lemmas.World
/-
A pending poll is never forgotten: for a polling transport that holds a poll and is not writable, either a writer
task for it is queued (it will answer the poll) or the client had already given the request up (`PendX`).

`Calm w w'`: what almost every function of the model may do, as far as polls and writers are concerned — never change
a transport's kind or its registered poll, never switch `writable` on, and switch it off only by starting a writer;
never drop a queued task or un-finish a request. `TrMono` and `Cone` are its two halves; `Cone` is what carries `PendX`
(`Cone.pend`), and the poll condition `PollX` reads off `Calm` that kinds and the size of the table stay. Here: the
relations and the primitive updates. `Only` (Lemmas/Only.lean) takes `Calm` through every function of the model that
is calm; those that are not register or answer a poll or see it given up, create a transport, or take a writer task
off the queue.
-/
namespace EIO.Ses
open EIO EIO.Codec

def reqDone (w : World) (r : Nat) : Prop := (w.reqs.getD r default).done = true

/-- `x`: the transport whose writer task has been taken off the queue and is running right now -/
structure PendX (x : Option Nat) (w : World) : Prop where
  p4 : ∀ ti r, x ≠ some ti → (w.tr ti).isPolling = true → (w.tr ti).req = some r → (w.tr ti).writable = false →
    (∃ b, Task.pollSend ti b ∈ w.tasks) ∨ reqDone w r

/-- kind and pending poll of every transport untouched, `writable` only switched off -/
structure TrMono (w w' : World) : Prop where
  size : w'.trs.size = w.trs.size
  kind : ∀ j, (w'.tr j).isPolling = (w.tr j).isPolling
  req : ∀ j, (w'.tr j).req = (w.tr j).req
  wr : ∀ j, (w'.tr j).writable = true → (w.tr j).writable = true

/-- … and switched off only by starting a writer; no queued task dropped, no request un-finished. (The name: what
    holds of `w` under `PendX` still holds of any `w'` in the cone above it, `Cone.pend`.) -/
structure Cone (w w' : World) : Prop where
  size : w'.trs.size = w.trs.size
  kind : ∀ j, (w'.tr j).isPolling = (w.tr j).isPolling
  req : ∀ j, (w'.tr j).req = (w.tr j).req
  tasks : ∀ t ∈ w.tasks, t ∈ w'.tasks
  done : ∀ r, reqDone w r → reqDone w' r
  flip : ∀ j, (w'.tr j).writable = false → (w.tr j).writable = true → (w.tr j).isPolling = true → ∃ b, Task.pollSend j b ∈ w'.tasks

theorem TrMono.refl (w : World) : TrMono w w := ⟨rfl, fun _ => rfl, fun _ => rfl, fun _ h => h⟩
theorem TrMono.trans {a b c : World} (h1 : TrMono a b) (h2 : TrMono b c) : TrMono a c :=
  ⟨h2.size.trans h1.size, fun j => (h2.kind j).trans (h1.kind j), fun j => (h2.req j).trans (h1.req j),
   fun j h => h1.wr j (h2.wr j h)⟩

theorem Cone.refl (w : World) : Cone w w :=
  ⟨rfl, fun _ => rfl, fun _ => rfl, fun _ h => h, fun _ h => h, fun j a b _ => by rw [b] at a; cases a⟩

theorem Cone.trans {a b c : World} (h1 : Cone a b) (h2 : Cone b c) : Cone a c := by
  refine ⟨h2.size.trans h1.size, fun j => (h2.kind j).trans (h1.kind j), fun j => (h2.req j).trans (h1.req j),
    fun t h => h2.tasks t (h1.tasks t h), fun r h => h2.done r (h1.done r h), fun j hc ha hp => ?_⟩
  cases hb : (b.tr j).writable with
  | false =>
    obtain ⟨bb, hbb⟩ := h1.flip j hb ha hp
    exact ⟨bb, h2.tasks _ hbb⟩
  | true => exact h2.flip j hc hb ((h1.kind j).trans hp)

/-- a poll that was owed a writer or a finished request before is owed nothing new: where `writable` went off,
    a writer was started -/
theorem Cone.pend {x : Option Nat} {w w' : World} (c : Cone w w') (p : PendX x w) : PendX x w' := by
  refine ⟨fun ti r hx hp hq hw => ?_⟩
  have hp0 : (w.tr ti).isPolling = true := (c.kind ti) ▸ hp
  have hq0 : (w.tr ti).req = some r := (c.req ti) ▸ hq
  cases h0 : (w.tr ti).writable with
  | false =>
    rcases p.p4 ti r hx hp0 hq0 h0 with ⟨b, hb⟩ | hd
    · exact Or.inl ⟨b, c.tasks _ hb⟩
    · exact Or.inr (c.done r hd)
  | true => exact Or.inl (c.flip ti hw h0 hp0)

structure Calm (w w' : World) : Prop where
  mono : TrMono w w'
  cone : Cone w w'

variable {w0 w : World}

theorem Calm.refl (w : World) : Calm w w := ⟨.refl w, .refl w⟩
theorem Calm.trans {a b c : World} (h1 : Calm a b) (h2 : Calm b c) : Calm a c :=
  ⟨h1.mono.trans h2.mono, h1.cone.trans h2.cone⟩
theorem Calm.pend {x : Option Nat} (c : Calm w0 w) (p : PendX x w0) : PendX x w := c.cone.pend p

theorem Calm.keep {w w' : World} (hs : w'.trs.size = w.trs.size)
    (ht : ∀ j, (w'.tr j).isPolling = (w.tr j).isPolling ∧ (w'.tr j).req = (w.tr j).req ∧ (w'.tr j).writable = (w.tr j).writable)
    (hq : w'.tasks = w.tasks) (hd : ∀ r, reqDone w r → reqDone w' r) : Calm w w' :=
  ⟨⟨hs, fun j => (ht j).1, fun j => (ht j).2.1, fun j a => (ht j).2.2 ▸ a⟩,
   ⟨hs, fun j => (ht j).1, fun j => (ht j).2.1, fun _ a => hq ▸ a, hd, fun j a b _ => by rw [(ht j).2.2, b] at a; cases a⟩⟩

theorem calm_setTr (i : Nat) (f : Tr → Tr) (h : Calm w0 w)
    (hf : ∀ t, (f t).isPolling = t.isPolling ∧ (f t).req = t.req ∧ (f t).writable = t.writable := by exact fun _ => ⟨rfl, rfl, rfl⟩) :
    Calm w0 (w.setTr i f) :=
  h.trans (.keep (trs_size_setTr w i f) (fun j => ⟨tr_setTr_of (·.isPolling) w i j f fun t => (hf t).1,
    tr_setTr_of (·.req) w i j f fun t => (hf t).2.1, tr_setTr_of (·.writable) w i j f fun t => (hf t).2.2⟩) rfl fun _ a => a)

theorem calm_reqs (w' : World) (h : Calm w0 w) (hd : ∀ r, reqDone w r → reqDone w' r) (ht : w'.trs = w.trs := by rfl)
    (hq : w'.tasks = w.tasks := by rfl) : Calm w0 w' :=
  have e : ∀ j, w'.tr j = w.tr j := fun j => by unfold World.tr; rw [ht]
  h.trans (.keep (by rw [ht]) (fun j => by rw [e]; exact ⟨rfl, rfl, rfl⟩) hq hd)

theorem calm_fields (w' : World) (h : Calm w0 w) (ht : w'.trs = w.trs := by rfl) (hq : w'.tasks = w.tasks := by rfl)
    (hr : w'.reqs = w.reqs := by rfl) : Calm w0 w' :=
  calm_reqs w' h (fun r hd => by unfold reqDone at hd ⊢; rw [hr]; exact hd) ht hq

theorem calm_setSock (i : Nat) (f : Sock → Sock) (h : Calm w0 w) : Calm w0 (w.setSock i f) := calm_fields _ h
theorem calm_setConn (i : Nat) (f : Conn → Conn) (h : Calm w0 w) : Calm w0 (w.setConn i f) := calm_fields _ h
theorem calm_ev (s : String) (h : Calm w0 w) : Calm w0 (w.ev s) := calm_fields _ h
theorem calm_sev (sid : Nat) (e : SEv) (h : Calm w0 w) : Calm w0 (w.sev sid e) :=
  calm_fields _ h (trs_sev w sid e) (tasks_sev w sid e) (reqs_sev w sid e)

theorem calm_setReq (i : Nat) (f : Req → Req) (h : Calm w0 w) (hf : ∀ q, q.done = true → (f q).done = true := by exact fun _ a => a) :
    Calm w0 (w.setReq i f) := by
  refine calm_reqs _ h fun r hd => ?_
  unfold reqDone at hd ⊢
  rw [req_setReq]; split
  · exact hf _ hd
  · exact hd

theorem calm_pushReq (q : Req) (h : Calm w0 w) : Calm w0 ({ w with reqs := w.reqs.push q } : World) := by
  refine calm_reqs _ h fun r hd => ?_
  unfold reqDone at hd ⊢
  have hr : r < w.reqs.size := Nat.lt_of_not_le fun hle => by rw [getD_oob _ _ _ hle] at hd; cases hd
  show ((w.reqs.push q).getD r default).done = true
  rw [getD_push_lt _ _ _ _ hr]; exact hd

/-- the one step that switches `writable` off: it queues the writer -/
theorem calm_trSend (ti : Nat) (b : List Pkt) (h : Calm w0 w) : Calm w0 (trSend w ti b) := by
  have hs := trs_size_trSend w ti b
  have hk : ∀ j, ((trSend w ti b).tr j).isPolling = (w.tr j).isPolling := fun j => by
    rw [tr_trSend]; exact tr_setTr_of (·.isPolling) w ti j _ fun _ => rfl
  have hr : ∀ j, ((trSend w ti b).tr j).req = (w.tr j).req := fun j => by
    rw [tr_trSend]; exact tr_setTr_of (·.req) w ti j _ fun _ => rfl
  refine h.trans ⟨⟨hs, hk, hr, fun j a => ?_⟩, ⟨hs, hk, hr, fun t a => ?_, fun _ a => a, fun j a hw hp => ?_⟩⟩
  · rw [tr_trSend, tr_setTr] at a; split at a
    · cases a
    · exact a
  · rw [tasks_trSend]; exact List.mem_append_left _ a
  · rw [tr_trSend, tr_setTr] at a; split at a
    · rename_i e
      refine ⟨b, ?_⟩
      rw [tasks_trSend, e.1, if_pos hp]
      exact List.mem_append_right _ (List.mem_singleton.mpr rfl)
    · rw [hw] at a; cases a

end EIO.Ses
