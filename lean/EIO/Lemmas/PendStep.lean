import EIO.Lemmas.Only
/-
`PendX` through every operation: `step_pd`. A calm operation carries it (`step_calm`, `Calm.pend`); what needs an
argument of its own are the functions that register or answer a poll or see it given up (`abortReq` switches `writable`
off without starting a writer: the request is finished), create a transport, or take a writer task off the queue.
Before that, what `Only` says of the close paths, for `TrMono` and `Cone`.
-/
namespace EIO.Ses
open EIO EIO.Codec

/-- the ten statements for a relation that absorbs a calm step -/
theorem closeAll {P : World → World → Prop} (hP : ∀ {a b c}, P a b → Calm b c → P a c) (f : Nat) :
    (∀ w0 w ti, P w0 w → P w0 (trEmitClose f w ti)) ∧
    (∀ w0 w ti, P w0 w → P w0 (trOnErrorF f w ti)) ∧
    (∀ w0 w ti, P w0 w → P w0 (trOnCloseBaseF f w ti)) ∧
    (∀ w0 w ti, P w0 w → P w0 (pollOnCloseF f w ti)) ∧
    (∀ w0 w ti, P w0 w → P w0 (runCloseFnF f w ti)) ∧
    (∀ w0 w ti, P w0 w → P w0 (wsCloseNowF f w ti)) ∧
    (∀ w0 w ti fn, P w0 w → P w0 (trCloseF f w ti fn)) ∧
    (∀ w0 w sid, P w0 w → P w0 (clearTransportF f w sid)) ∧
    (∀ w0 w sid, P w0 w → P w0 (candFail f w sid)) ∧
    (∀ w0 w sid r, P w0 w → P w0 (sockOnClose f w sid r)) :=
  have c : ∀ w, OnlyClose May.calm w f := fun _ => onlyClose routine_calm f
  ⟨fun _ w ti h => hP h ((c w).trEmitClose w ti (.refl w)).toCalm, fun _ w ti h => hP h ((c w).trOnErrorF w ti (.refl w)).toCalm,
    fun _ w ti h => hP h ((c w).trOnCloseBaseF w ti (.refl w)).toCalm, fun _ w ti h => hP h ((c w).pollOnCloseF w ti (.refl w)).toCalm,
    fun _ w ti h => hP h ((c w).runCloseFnF w ti (.refl w)).toCalm, fun _ w ti h => hP h ((c w).wsCloseNowF w ti (.refl w)).toCalm,
    fun _ w ti fn h => hP h ((c w).trCloseF w ti fn (.refl w)).toCalm,
    fun _ w sid h => hP h ((c w).clearTransportF w sid (fun n => absurd trivial n) (.refl w)).toCalm,
    fun _ w sid h => hP h ((c w).candFail w sid (.refl w)).toCalm,
    fun _ w sid r h => hP h ((c w).sockOnClose w sid r (fun _ => trivial) (.refl w)).toCalm⟩

theorem tm_close_all (f : Nat) :
    (∀ w0 w ti, TrMono w0 w → TrMono w0 (trEmitClose f w ti)) ∧
    (∀ w0 w ti, TrMono w0 w → TrMono w0 (trOnErrorF f w ti)) ∧
    (∀ w0 w ti, TrMono w0 w → TrMono w0 (trOnCloseBaseF f w ti)) ∧
    (∀ w0 w ti, TrMono w0 w → TrMono w0 (pollOnCloseF f w ti)) ∧
    (∀ w0 w ti, TrMono w0 w → TrMono w0 (runCloseFnF f w ti)) ∧
    (∀ w0 w ti, TrMono w0 w → TrMono w0 (wsCloseNowF f w ti)) ∧
    (∀ w0 w ti fn, TrMono w0 w → TrMono w0 (trCloseF f w ti fn)) ∧
    (∀ w0 w sid, TrMono w0 w → TrMono w0 (clearTransportF f w sid)) ∧
    (∀ w0 w sid, TrMono w0 w → TrMono w0 (candFail f w sid)) ∧
    (∀ w0 w sid r, TrMono w0 w → TrMono w0 (sockOnClose f w sid r)) :=
  closeAll (fun h c => h.trans c.mono) f

theorem cn_close_all (f : Nat) :
    (∀ w0 w ti, Cone w0 w → Cone w0 (trEmitClose f w ti)) ∧
    (∀ w0 w ti, Cone w0 w → Cone w0 (trOnErrorF f w ti)) ∧
    (∀ w0 w ti, Cone w0 w → Cone w0 (trOnCloseBaseF f w ti)) ∧
    (∀ w0 w ti, Cone w0 w → Cone w0 (pollOnCloseF f w ti)) ∧
    (∀ w0 w ti, Cone w0 w → Cone w0 (runCloseFnF f w ti)) ∧
    (∀ w0 w ti, Cone w0 w → Cone w0 (wsCloseNowF f w ti)) ∧
    (∀ w0 w ti fn, Cone w0 w → Cone w0 (trCloseF f w ti fn)) ∧
    (∀ w0 w sid, Cone w0 w → Cone w0 (clearTransportF f w sid)) ∧
    (∀ w0 w sid, Cone w0 w → Cone w0 (candFail f w sid)) ∧
    (∀ w0 w sid r, Cone w0 w → Cone w0 (sockOnClose f w sid r)) :=
  closeAll (fun h c => h.trans c.cone) f

variable {x : Option Nat} {w : World}

/-- one transport is changed: what it is owed afterwards is there already; an exception made for it is no longer needed -/
theorem pd_setTr {y : Option Nat} (i : Nat) (f : Tr → Tr) (hxy : x = y ∨ x = some i)
    (hf : ∀ r, (f (w.tr i)).isPolling = true → (f (w.tr i)).req = some r → (f (w.tr i)).writable = false →
      (∃ b, Task.pollSend i b ∈ w.tasks) ∨ reqDone w r)
    (p : PendX x w) : PendX y (w.setTr i f) := by
  refine ⟨fun ti r hy hp hq hw => ?_⟩
  by_cases e : i = ti ∧ i < w.trs.size
  · rw [tr_setTr, if_pos e] at hp hq hw
    obtain ⟨rfl, _⟩ := e
    exact hf r hp hq hw
  · rw [tr_setTr, if_neg e] at hp hq hw
    refine p.p4 ti r (fun hx => ?_) hp hq hw
    rcases hxy with h | h
    · exact hy (h ▸ hx)
    · -- the excepted transport is not in the table: it is not a polling transport
      cases h.symm.trans hx
      rw [tr_oob w i (Nat.le_of_not_lt fun hlt => e ⟨rfl, hlt⟩)] at hp; cases hp

/-- the exception is no longer needed once its transport holds no poll -/
theorem PendX.settle {ti : Nat} (p : PendX (some ti) w) (h : (w.tr ti).req = none) : PendX none w :=
  ⟨fun tj r _ hp hq hw => p.p4 tj r (fun e => by cases e; rw [h] at hq; cases hq) hp hq hw⟩

theorem pd_pushTr {w' : World} (t : Tr) (ht : t.req = none) (p : PendX x w) (htrs : w'.trs = w.trs.push t := by rfl)
    (hq : w'.tasks = w.tasks := by rfl) (hr : w'.reqs = w.reqs := by rfl) : PendX x w' := by
  refine ⟨fun ti r hx hp hqq hw => ?_⟩
  rw [tr_push htrs] at hp hqq hw
  split at hqq
  · rw [ht] at hqq; cases hqq
  · rename_i hne
    rw [if_neg hne] at hp hw
    rcases p.p4 ti r hx hp hqq hw with ⟨b, hb⟩ | hd
    · exact Or.inl ⟨b, hq ▸ hb⟩
    · exact Or.inr (by unfold reqDone at hd ⊢; rw [hr]; exact hd)

theorem pd_rejectReq (r code : Nat) (msg : String) (p : PendX x w) : PendX x (rejectReq w r code msg) :=
  (only_rejectReq (M := .calm) r code msg (.refl w)).toCalm.pend p

theorem pd_openSession (ti proto : Nat) (p : PendX x w) : PendX x (openSession w ti proto) :=
  (only_openSession routine_calm ti proto ⟨trivial, fun _ => trivial, fun _ _ _ => trivial⟩ (.refl w)).toCalm.pend p

theorem pd_onPollRequest (ti r : Nat) (p : PendX x w) : PendX x (onPollRequest w ti r) := by
  unfold onPollRequest
  refine ite_ind (fun _ => (only_answer _ _ (only_trOnError routine_calm _ (.refl w))).toCalm.pend p) fun _ => ?_
  have p1 := pd_setTr ti (fun t => { t with req := some r, writable := true }) (.inl rfl) (fun _ _ _ hw => nomatch hw) p
  have c := fun w1 => only_trEmitReady routine_calm ti (only_setReq (M := .calm) r (fun q => { q with pollOf := some ti }) (.refl w1))
  exact ite_ind (fun _ => (only_trSend _ _ (c _)).toCalm.pend p1) fun _ => (c _).toCalm.pend p1

theorem pd_hsPolling (proto : Nat) (b64 : Bool) (j : Option Bytes) (p : PendX x w) : PendX x (hsPolling w proto b64 j) := by
  unfold hsPolling
  have c0 := calm_pushReq { hasSid := false } (.refl w)
  refine ite_ind (fun _ => pd_rejectReq _ _ _ (c0.pend p)) fun _ => ite_ind (fun _ => pd_rejectReq _ _ _ (c0.pend p)) fun _ => ?_
  exact pd_openSession _ _ (pd_onPollRequest _ _ (pd_pushTr _ rfl (c0.pend p)))

theorem pd_hsWebsocket (proto : Nat) (b64 : Bool) (p : PendX x w) : PendX x (hsWebsocket w proto b64) := by
  unfold hsWebsocket
  have c0 : Calm w ({ w with conns := w.conns.push {} } : World) := calm_fields _ (.refl w)
  refine ite_ind (fun _ => (calm_setConn _ _ c0).pend p) fun _ => ite_ind (fun _ => (calm_setConn _ _ (calm_ev _ c0)).pend p) fun _ => ?_
  exact pd_openSession _ _ (pd_pushTr _ rfl (c0.pend p))

theorem pd_hsWt (p : PendX x w) : PendX x (hsWt w) := by
  unfold hsWt
  exact pd_openSession _ _ (pd_pushTr _ rfl p)

theorem pd_pollReq (sid : Nat) (ae : Bytes) (p : PendX x w) : PendX x (pollReq w sid ae) := by
  unfold pollReq
  have c0 := calm_pushReq { ae } (.refl w)
  dsimp only; split
  · exact pd_rejectReq _ _ _ (c0.pend p)
  · exact ite_ind (fun _ => pd_rejectReq _ _ _ (c0.pend p)) fun _ => pd_onPollRequest _ _ (c0.pend p)

theorem pd_wsCandidate (sid proto : Nat) (b64 : Bool) (p : PendX x w) : PendX x (wsCandidate w sid proto b64) := by
  unfold wsCandidate
  have c0 : Calm w ({ w with conns := w.conns.push {} } : World) := calm_fields _ (.refl w)
  dsimp only
  refine ite_ind (fun _ => (calm_setConn _ _ (calm_setConn _ _ c0)).pend p) fun _ => ?_
  split
  · exact (calm_setConn _ _ (calm_setConn _ _ (calm_ev _ c0))).pend p
  · exact ite_ind (fun _ => (calm_setConn _ _ c0).pend p) fun _ => (calm_setSock _ _ (.refl _)).pend (pd_pushTr _ rfl (c0.pend p))

theorem pd_wtCandidate (sid : Nat) (p : PendX x w) : PendX x (wtCandidate w sid) := by
  unfold wtCandidate
  have c0 : Calm w ({ w with conns := w.conns.push { wt := true } } : World) := calm_fields _ (.refl w)
  dsimp only; split
  · exact (calm_setConn _ _ c0).pend p
  · exact ite_ind (fun _ => (calm_setConn _ _ c0).pend p) fun _ => (calm_setSock _ _ (.refl _)).pend (pd_pushTr _ rfl (c0.pend p))

theorem pd_abortReq (r : Nat) (p : PendX x w) : PendX x (abortReq w r) := by
  unfold abortReq
  refine ite_ind (fun _ => p) fun _ => ?_
  have p1 := (calm_setReq r (fun q => { q with done := true }) (.refl w) fun _ _ => rfl).pend p
  dsimp only; split
  · rename_i ti hpo
    refine ite_ind (fun hreq => (only_trOnError routine_calm _ (.refl _)).toCalm.pend
      (pd_setTr ti _ (.inl rfl) (fun rj _ hq _ => .inr ?_) p1)) fun _ => p1
    -- the transport's poll is the request that has just been marked finished, which exists since it names a transport
    cases hreq.symm.trans hq
    have hr : r < w.reqs.size := Nat.lt_of_not_le fun hle => by rw [getD_oob _ _ _ hle] at hpo; cases hpo
    show ((w.setReq r _).reqs.getD r default).done = true
    rw [req_setReq, if_pos ⟨rfl, hr⟩]
  · exact p1

theorem pd_runPollSend (ti : Nat) (batch : List Pkt) (p : PendX (some ti) w) : PendX none (runPollSend w ti batch) := by
  unfold runPollSend; dsimp only
  generalize hw1 : (if (w.tr ti).shouldClose = true then _ else w) = w1
  have p1 : PendX (some ti) w1 :=
    hw1 ▸ Calm.pend (ite_ind (fun _ => (only_pollOnClose routine_calm _ (only_runCloseFn routine_calm _
      (only_setTr _ _ (.refl w)))).toCalm) fun _ => .refl w) p
  split
  · rename_i hnone
    exact (only_trOnError routine_calm ti (.refl w1)).toCalm.pend (p1.settle hnone)
  · -- the poll is answered
    exact (only_trEmitDrain routine_calm _ (only_answer _ _ (only_emitHeaders _ _ (.refl _)))).toCalm.pend
      (pd_setTr ti _ (.inr rfl) (fun _ _ hq _ => nomatch hq) p1)

theorem pd_runWsSend (ti : Nat) (batch : List Pkt) (p : PendX none w) : PendX none (runWsSend w ti batch) := by
  unfold runWsSend
  exact (only_trEmitReady routine_calm _ (.refl _)).toCalm.pend (pd_setTr ti _ (.inl rfl) (fun _ _ _ hw => nomatch hw)
    ((only_trEmitDrain routine_calm ti (only_wsSendLoop routine_calm ti batch (.refl w))).toCalm.pend p))

/-- a writer task is taken off the queue: if it is a polling writer, its transport becomes the exception -/
theorem pd_dequeue {t : Task} {rest : List Task} (hq : w.tasks = t :: rest) (hx : ∀ ti b, t = .pollSend ti b → x = some ti)
    (p : PendX none w) : PendX x ({ w with tasks := rest } : World) := by
  refine ⟨fun tj r hx' hp hqq hw => ?_⟩
  rcases p.p4 tj r (fun e => nomatch e) hp hqq hw with ⟨b, hb⟩ | hd
  · rw [hq] at hb
    rcases List.mem_cons.mp hb with e | e
    · exact absurd (hx tj b e.symm) hx'
    · exact Or.inl ⟨b, e⟩
  · exact Or.inr hd

theorem pd_settle (f : Nat) (p : PendX none w) : PendX none (settle f w) := by
  refine settle_ind (fun w t rest hq p => ?_) f p
  cases t with
  | pollSend ti b => rw [runTask]; exact pd_runPollSend ti b (pd_dequeue hq (fun _ _ e => by cases e; rfl) p)
  | wsSend ti b => rw [runTask]; exact pd_runWsSend ti b (pd_dequeue hq (fun _ _ e => nomatch e) p)

theorem step_pd (w : World) (op : Op) (p : PendX none w) : PendX none (step w op) := by
  cases hc : op.calm with
  | true => exact (step_calm w op hc).pend p
  | false =>
    unfold step
    refine ite_ind (fun _ => p) fun _ => ?_
    cases op with
    | hsPolling pr b j => exact pd_hsPolling _ _ _ p
    | hsWebsocket pr b => exact pd_hsWebsocket _ _ p
    | poll sid ae => exact pd_pollReq _ _ p
    | abort r => exact pd_abortReq _ p
    | wsCandidate sid pr b => exact pd_wsCandidate _ _ _ p
    | hsWt => exact pd_hsWt p
    | wtCandidate sid => exact pd_wtCandidate _ p
    | settle => exact pd_settle _ p
    | _ => cases hc

theorem pd_init (o : Opts) : PendX none (init o) := by
  refine ⟨fun ti r _ hp _ _ => ?_⟩
  rw [tr_oob (init o) ti (Nat.zero_le _)] at hp; cases hp

end EIO.Ses
