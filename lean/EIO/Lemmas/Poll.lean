import EIO.Lemmas.Only
/-
A closed polling transport never sits on an idle pending poll:

  P1  polling ∧ closed ∧ a poll is pending → not writable (a writer was started for it, or one was in flight);
  P2  closeWait (a frame transport waiting for its batch to drain before it closes) → not polling;
  P3  a pending poll → the transport is polling;
  T   every queued writer task is of its transport's kind.

Here: the primitive updates and the close paths. That a function leaves the kinds and the size of the table alone
is read off `Calm`, which `Only` carries for it (`Only.toCalm`).
-/
namespace EIO.Ses
open EIO EIO.Codec

structure PollT (t : Tr) : Prop where
  p1 : t.isPolling = true → t.rs = .closed → t.req.isSome → t.writable = false
  p2 : t.closeWait = true → t.isPolling = false
  p3 : t.req.isSome → t.isPolling = true

def taskKindOK (w : World) : Task → Prop
  | .wsSend ti _ => ti < w.trs.size ∧ (w.tr ti).isPolling = false
  | .pollSend ti _ => (w.tr ti).isPolling = true

structure PollX (w : World) : Prop where
  tr : ∀ ti, PollT (w.tr ti)
  tk : ∀ t ∈ w.tasks, taskKindOK w t

theorem taskKindOK_congr {w w' : World} (t : Task) (hsz : w'.trs.size = w.trs.size)
    (hk : ∀ j, (w'.tr j).isPolling = (w.tr j).isPolling) (h : taskKindOK w t) : taskKindOK w' t := by
  cases t with
  | wsSend ti b => exact ⟨hsz ▸ h.1, (hk ti).trans h.2⟩
  | pollSend ti b => exact (hk ti).trans h

/-- a transport changed in ways that cannot break the poll condition: it is not closed or made writable, and made to
    wait for its batch only if it is a frame transport -/
theorem PollT.keep {t t' : Tr} (h : PollT t) (hk : t'.isPolling = t.isPolling) (hq : t'.req = t.req)
    (hr : t'.rs = .closed → t.rs = .closed) (hw : t.writable = false → t'.writable = false)
    (hc : t'.closeWait = true → t.closeWait = true ∨ t.isPolling = false) : PollT t' :=
  ⟨fun a b c => hw (h.p1 (hk ▸ a) (hr b) (hq ▸ c)), fun a => hk ▸ (hc a).elim h.p2 id, fun a => hk ▸ h.p3 (hq ▸ a)⟩

theorem px_fields {w : World} (w' : World) (p : PollX w) (h1 : w'.trs = w.trs := by rfl) (h2 : w'.tasks = w.tasks := by rfl) : PollX w' := by
  have e : ∀ j, w'.tr j = w.tr j := fun j => by unfold World.tr; rw [h1]
  refine ⟨fun j => e j ▸ p.tr j, fun t h => ?_⟩
  exact taskKindOK_congr t (by rw [h1]) (fun j => by rw [e]) (p.tk t (h2 ▸ h))

variable {w : World}

theorem px_setTr (i : Nat) (f : Tr → Tr) (p : PollX w) (hf : PollT (w.tr i) → PollT (f (w.tr i)))
    (hk : ∀ t, (f t).isPolling = t.isPolling := by exact fun _ => rfl) : PollX (w.setTr i f) := by
  refine ⟨fun j => ?_, fun t ht => taskKindOK_congr t (trs_size_setTr w i f) (fun j => tr_setTr_of (·.isPolling) w i j f hk) (p.tk t ht)⟩
  rw [tr_setTr]; split
  · rename_i e; obtain ⟨e, _⟩ := e; subst e; exact hf (p.tr _)
  · exact p.tr j

/-- an update of fields of one transport that the poll condition does not read (`hf` speaks of any transport, so that
    its default proof does not carry the world) -/
theorem px_touch (i : Nat) (f : Tr → Tr) (p : PollX w)
    (hf : ∀ t, PollT t → PollT (f t) := by exact fun _ h => h.keep rfl rfl id id .inl)
    (hk : ∀ t, (f t).isPolling = t.isPolling := by exact fun _ => rfl) : PollX (w.setTr i f) :=
  px_setTr i f p (hf _) hk

theorem px_setSock (i : Nat) (f : Sock → Sock) (p : PollX w) : PollX (w.setSock i f) := px_fields _ p
theorem px_setConn (i : Nat) (f : Conn → Conn) (p : PollX w) : PollX (w.setConn i f) := px_fields _ p
theorem px_setReq (i : Nat) (f : Req → Req) (p : PollX w) : PollX (w.setReq i f) := px_fields _ p
theorem px_ev (s : String) (p : PollX w) : PollX (w.ev s) := px_fields _ p
theorem px_sev (sid : Nat) (e : SEv) (p : PollX w) : PollX (w.sev sid e) := px_fields _ p (trs_sev w sid e) (tasks_sev w sid e)

theorem px_answer (r : Nat) (resp : Resp) (p : PollX w) : PollX (w.answer r resp) := by
  unfold World.answer; split
  · exact p
  · exact px_setReq _ _ (px_ev _ p)

theorem px_abortData (d : Option Nat) (p : PollX w) : PollX (abortData w d) := by
  unfold abortData; split
  · exact px_answer _ _ p
  · exact p

theorem px_trSend (ti : Nat) (b : List Pkt) (hin : ti < w.trs.size) (p : PollX w) : PollX (trSend w ti b) := by
  have c := calm_trSend ti b (Calm.refl w)
  have p1 : PollX (w.setTr ti fun t => { t with writable := false }) :=
    px_setTr ti _ p fun h => h.keep rfl rfl id (fun _ => rfl) .inl
  refine ⟨fun j => (tr_trSend w ti b j).symm ▸ p1.tr j, fun t ht => ?_⟩
  rw [tasks_trSend] at ht
  rcases List.mem_append.mp ht with h | h
  · exact taskKindOK_congr t c.mono.size c.mono.kind (p.tk t h)
  · rw [List.mem_singleton.mp h]
    split
    · rename_i hp; exact (c.mono.kind ti).trans hp
    · rename_i hp; exact ⟨c.mono.size.symm ▸ hin, (c.mono.kind ti).trans (Bool.eq_false_iff.mpr hp)⟩

theorem px_candCleanup (sid : Nat) (p : PollX w) : PollX (candCleanup w sid) := by
  unfold candCleanup; split
  · exact p
  · exact px_touch _ _ (px_setSock _ _ p)

theorem px_emitHeaders (ti r : Nat) (p : PollX w) : PollX (emitHeaders w ti r) :=
  emitHeaders_ind ti r (fun _ _ p => px_setReq _ _ p) (fun _ _ p => px_ev _ p) p

theorem px_rejectReq (r code : Nat) (msg : String) (p : PollX w) : PollX (rejectReq w r code msg) :=
  px_answer _ _ (px_ev _ p)

structure PollClose (f : Nat) : Prop where
  trEmitClose : ∀ w ti, PollX w → PollX (trEmitClose f w ti)
  trOnErrorF : ∀ w ti, PollX w → PollX (trOnErrorF f w ti)
  /-- the transport is marked closed here: a poll it holds must have had its writer started -/
  trOnCloseBaseF : ∀ w ti, PollX w → ((w.tr ti).isPolling = true → (w.tr ti).req.isSome → (w.tr ti).writable = false) →
    PollX (trOnCloseBaseF f w ti)
  pollOnCloseF : ∀ w ti, PollX w → PollX (pollOnCloseF f w ti)
  runCloseFnF : ∀ w ti, PollX w → PollX (runCloseFnF f w ti)
  wsCloseNowF : ∀ w ti, PollX w → (w.tr ti).isPolling = false → PollX (wsCloseNowF f w ti)
  trCloseF : ∀ w ti fn, PollX w → PollX (trCloseF f w ti fn)
  clearTransportF : ∀ w sid, PollX w → PollX (clearTransportF f w sid)
  candFail : ∀ w sid, PollX w → PollX (candFail f w sid)
  sockOnClose : ∀ w sid r, PollX w → PollX (sockOnClose f w sid r)

theorem pollClose (f : Nat) : PollClose f := by
  induction f with
  | zero =>
    constructor <;> intros
    · rw [trEmitClose]; assumption
    · rw [trOnErrorF]; assumption
    · rw [trOnCloseBaseF]; assumption
    · rw [pollOnCloseF]; assumption
    · rw [runCloseFnF]; assumption
    · rw [wsCloseNowF]; assumption
    · rw [trCloseF]; assumption
    · rw [clearTransportF]; assumption
    · rw [candFail]; exact px_candCleanup _ (by assumption)
    · rw [sockOnClose]; assumption
  | succ f ih =>
    constructor
    · intro w ti p
      rw [trEmitClose]; split
      · exact ih.sockOnClose _ _ _ p
      · exact ih.candFail _ _ p
      · exact p
    · intro w ti p
      rw [trOnErrorF]; split
      · exact ih.sockOnClose _ _ _ p
      · exact ih.candFail _ _ p
      · exact p
    · intro w ti p hpre
      rw [trOnCloseBaseF]
      exact ite_ind (fun _ => p) fun _ => ih.trEmitClose _ _ (px_setTr ti _ p fun h => ⟨fun a _ c => hpre a c, h.p2, h.p3⟩)
    · intro w ti p
      rw [pollOnCloseF]
      by_cases hw : (w.tr ti).writable = true
      · have hin := tr_in_table (·.writable) rfl hw
        rw [if_pos hw]
        refine ih.trOnCloseBaseF _ _ (px_trSend _ _ hin p) fun _ _ => ?_
        rw [tr_trSend, tr_setTr, if_pos ⟨rfl, hin⟩]
      · rw [if_neg hw]
        exact ih.trOnCloseBaseF _ _ p fun _ _ => Bool.eq_false_iff.mpr hw
    · intro w ti p
      rw [runCloseFnF]; split
      · exact ih.sockOnClose _ _ _ (px_touch _ _ p)
      · exact px_touch _ _ p
    · intro w ti p hnp
      rw [wsCloseNowF]
      -- the close callback leaves the transport's kind alone
      have c := ((onlyClose routine_calm f).runCloseFnF _ ti
        (only_setTr ti (fun t => { t with closeWait := false, closeTimerDue := none }) (.refl w))).toCalm
      refine ih.trOnCloseBaseF _ _ (px_setConn _ _ (ih.runCloseFnF _ _
        (px_setTr ti _ p fun h => h.keep rfl rfl id id nofun))) fun a => ?_
      rw [tr_setConn, c.mono.kind, hnp] at a; cases a
    · intro w ti fn p
      rw [trCloseF]
      refine ite_ind (fun _ => p) fun _ => ?_
      have c1 := calm_setTr ti (fun t => { t with rs := .closing, closeFn := fn }) (Calm.refl w)
      have p1 : PollX (w.setTr ti fun t => { t with rs := .closing, closeFn := fn }) :=
        px_setTr ti _ p fun h => h.keep rfl rfl nofun id .inl
      refine ite_ind (fun hpol => ?_) fun hnpol => ?_
      · have c2 := c1.trans (only_abortData (M := .calm) (w.tr ti).dataReq (.refl _)).toCalm
        have p2 := px_abortData (w.tr ti).dataReq p1
        have hin := c2.mono.size ▸ tr_in_table (·.isPolling) rfl hpol
        exact ite_ind (fun _ => ih.pollOnCloseF _ _ (ih.runCloseFnF _ _ (px_trSend _ _ hin p2))) fun _ =>
          ite_ind (fun _ => ih.pollOnCloseF _ _ (ih.runCloseFnF _ _ p2)) fun _ => px_touch _ _ p2
      · have hk := (c1.mono.kind ti).trans (Bool.eq_false_iff.mpr hnpol)
        exact ite_ind (fun _ => ih.wsCloseNowF _ _ p1 hk) fun _ => px_setTr ti _ p1 fun h => h.keep rfl rfl id id fun _ => .inr hk
    · intro w sid p
      rw [clearTransportF]
      exact px_setSock _ _ (ih.trCloseF _ _ _ (px_touch _ _ p))
    · intro w sid p
      rw [candFail]; split
      · exact p
      · exact ih.trCloseF _ _ _ (px_candCleanup _ p)
    · intro w sid r p
      rw [sockOnClose]
      refine ite_ind (fun _ => p) fun _ => ?_
      exact px_setSock _ _ (ih.candFail _ _ (px_sev _ _ (px_fields _ (ih.clearTransportF _ _ (px_setSock _ _ p)))))

theorem px_close_all (f : Nat) :
    (∀ w ti, PollX w → PollX (trEmitClose f w ti)) ∧
    (∀ w ti, PollX w → PollX (trOnErrorF f w ti)) ∧
    (∀ w ti, PollX w → ((w.tr ti).isPolling = true → (w.tr ti).req.isSome → (w.tr ti).writable = false) →
      PollX (trOnCloseBaseF f w ti)) ∧
    (∀ w ti, PollX w → PollX (pollOnCloseF f w ti)) ∧
    (∀ w ti, PollX w → PollX (runCloseFnF f w ti)) ∧
    (∀ w ti, PollX w → (w.tr ti).isPolling = false → PollX (wsCloseNowF f w ti)) ∧
    (∀ w ti fn, PollX w → PollX (trCloseF f w ti fn)) ∧
    (∀ w sid, PollX w → PollX (clearTransportF f w sid)) ∧
    (∀ w sid, PollX w → PollX (candFail f w sid)) ∧
    (∀ w sid r, PollX w → PollX (sockOnClose f w sid r)) :=
  have h := pollClose f
  ⟨h.trEmitClose, h.trOnErrorF, h.trOnCloseBaseF, h.pollOnCloseF, h.runCloseFnF, h.wsCloseNowF, h.trCloseF,
    h.clearTransportF, h.candFail, h.sockOnClose⟩

theorem px_trOnError (ti : Nat) (p : PollX w) : PollX (trOnError w ti) := (pollClose _).trOnErrorF _ _ p
theorem px_trOnCloseBase (ti : Nat) (p : PollX w)
    (hpre : (w.tr ti).isPolling = true → (w.tr ti).req.isSome → (w.tr ti).writable = false) : PollX (trOnCloseBase w ti) :=
  (pollClose _).trOnCloseBaseF _ _ p hpre
theorem px_pollOnClose (ti : Nat) (p : PollX w) : PollX (pollOnClose w ti) := (pollClose _).pollOnCloseF _ _ p
theorem px_runCloseFn (ti : Nat) (p : PollX w) : PollX (runCloseFn w ti) := (pollClose _).runCloseFnF _ _ p
theorem px_wsCloseNow (ti : Nat) (p : PollX w) (h : (w.tr ti).isPolling = false) : PollX (wsCloseNow w ti) :=
  (pollClose _).wsCloseNowF _ _ p h
theorem px_trClose (ti : Nat) (fn : Option Nat) (p : PollX w) : PollX (trClose w ti fn) := (pollClose _).trCloseF _ _ _ p
theorem px_clearTransport (sid : Nat) (p : PollX w) : PollX (clearTransport w sid) := (pollClose _).clearTransportF _ _ p
theorem px_sockOnClose (f sid : Nat) (r : String) (p : PollX w) : PollX (sockOnClose f w sid r) :=
  (pollClose f).sockOnClose _ _ _ p

end EIO.Ses
