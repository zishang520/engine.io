import EIO.Lemmas.Poll
import EIO.Lemmas.LinkStep
/-
PollX through flush, packets, writer tasks, handshakes, requests, frames, timers and every operation: `step_px`.
The linkage is needed where an upgrade candidate's transport is written to (it exists) and where a poll arrives
(the transport of a registered session is not closed).
-/
namespace EIO.Ses
open EIO EIO.Codec

variable {w : World}

theorem px_closeTransportF (f sid : Nat) (d : Bool) (p : PollX w) : PollX (closeTransportF f w sid d) := by
  cases f with
  | zero => rw [closeTransportF]; exact p
  | succ f =>
    rw [closeTransportF]
    have p1 : PollX (if d = true then w.setTr (w.sock sid).tr fun t => { t with discarded := true } else w) :=
      ite_ind (fun _ => px_touch _ _ p) fun _ => p
    exact ite_ind (fun _ => px_sockOnClose _ _ _ p1) fun _ => px_trClose _ _ p1

theorem px_flushF (f sid : Nat) (p : PollX w) : PollX (flushF f w sid) := by
  cases f with
  | zero => rw [flushF]; exact p
  | succ f =>
    rw [flushF]
    refine ite_ind (fun _ => p) fun hgo => px_ev _ ?_
    -- a batch is handed over only to a writable transport, which therefore exists
    have hin := tr_in_table (·.writable) rfl (Decidable.not_not.mp fun h => hgo (.inr (.inl h)))
    generalize hd : World.sev _ sid SEv.drain = wd
    have p1 : PollX wd :=
      hd ▸ px_sev _ _ (px_trSend _ _ (by rw [trs_ev, trs_sev, trs_setSock]; exact hin) (px_ev _ (px_sev _ _ (px_setSock _ _ p))))
    split
    · exact px_closeTransportF _ _ _ (px_setSock _ _ p1)
    · exact p1

theorem px_flush (sid : Nat) (p : PollX w) : PollX (flush w sid) := px_flushF _ sid p
theorem px_closeTransport (sid : Nat) (d : Bool) (p : PollX w) : PollX (closeTransport w sid d) := px_closeTransportF _ sid d p

theorem px_sendPacket (sid : Nat) (pk : Pkt) (cb : Option Nat) (p : PollX w) : PollX (sendPacket w sid pk cb) := by
  unfold sendPacket
  exact ite_ind (fun _ => p) fun _ => px_flush _ (px_setSock _ _ (px_sev _ _ p))

theorem px_sockOnDrain (sid : Nat) (p : PollX w) : PollX (sockOnDrain w sid) := by
  unfold sockOnDrain; split
  · exact p
  · exact foldl_ind (fun _ _ p => px_sev _ _ p) (px_setSock _ _ p)

theorem px_trEmitDrain (ti : Nat) (p : PollX w) : PollX (trEmitDrain w ti) := by
  unfold trEmitDrain
  have p1 : PollX (match (w.tr ti).role with | .current sid => sockOnDrain w sid | _ => w) := by
    split
    · exact px_sockOnDrain _ p
    · exact p
  exact ite_ind (fun hcw => px_wsCloseNow _ p1 ((p1.tr ti).p2 hcw)) fun _ => p1

theorem px_trEmitReady (ti : Nat) (p : PollX w) : PollX (trEmitReady w ti) := by
  unfold trEmitReady; split
  · exact px_flush _ p
  · exact p

theorem px_doUpgrade (sid newTr : Nat) (p : PollX w) : PollX (doUpgrade w sid newTr) := by
  unfold doUpgrade; dsimp only
  have p1 := px_candCleanup sid p
  generalize candCleanup w sid = wa at p1 ⊢
  generalize hf : flush _ sid = wf
  have p2 : PollX wf :=
    hf ▸ px_flush _ (px_sev _ _ (px_touch _ _ (px_setSock _ _ (px_clearTransport _ (px_setSock _ _ (px_touch _ _ p1))))))
  exact ite_ind (fun _ => px_trClose _ _ p2) fun _ => p2

theorem px_candOnPacket (sid : Nat) (pk : Pkt) (l : Link w) (p : PollX w) : PollX (candOnPacket w sid pk) := by
  unfold candOnPacket; split
  · exact p
  · rename_i c hc
    have hin : c.tr < w.trs.size := role_in_table w c.tr (by rw [l.l5 sid c hc]; simp)
    refine ite_ind (fun _ => px_setSock _ _ (px_sev _ _ (px_trSend _ _ hin p))) fun _ => ?_
    exact ite_ind (fun _ => px_doUpgrade _ _ p) fun _ => px_trClose _ _ (px_candCleanup _ p)

theorem px_sockOnPacket (sid : Nat) (pk : Pkt) (p : PollX w) : PollX (sockOnPacket w sid pk) := by
  unfold sockOnPacket
  refine ite_ind (fun _ => p) fun _ => ?_
  have p1 := px_sev sid (.packet pk.typ) p
  split
  · exact ite_ind (fun _ => px_sockOnClose _ _ _ p1) fun _ => px_sev _ _ (px_sendPacket _ _ _ (px_setSock _ _ p1))
  · exact ite_ind (fun _ => px_sockOnClose _ _ _ p1) fun _ => px_sev _ _ (px_setSock _ _ p1)
  · exact px_sockOnClose _ _ _ p1
  · exact px_sev _ _ p1
  · exact p1

theorem px_trEmitPacket (ti : Nat) (pk : Pkt) (l : Link w) (p : PollX w) : PollX (trEmitPacket w ti pk) := by
  unfold trEmitPacket; split
  · exact px_sockOnPacket _ _ p
  · exact px_candOnPacket _ _ l p
  · exact p

theorem px_runPollSend (ti : Nat) (batch : List Pkt) (p : PollX w) : PollX (runPollSend w ti batch) := by
  unfold runPollSend; dsimp only
  generalize hw1 : (if (w.tr ti).shouldClose = true then _ else w) = w1
  have p1 : PollX w1 := hw1 ▸ ite_ind (fun _ => px_pollOnClose _ (px_runCloseFn _ (px_touch _ _ p))) fun _ => p
  split
  · exact px_trOnError _ p1
  · exact px_trEmitDrain _ (px_answer _ _ (px_emitHeaders _ _
      (px_setTr ti _ p1 fun h => ⟨fun _ _ c => (by cases c), h.p2, fun c => (by cases c)⟩)))

theorem px_wsSendLoop (ti : Nat) (batch : List Pkt) (p : PollX w) : PollX (wsSendLoop ti batch w) :=
  wsSendLoop_ind ti (fun _ _ p => px_setConn _ _ p) (fun _ p => px_trOnError _ p) batch p

/-- the writer of a frame transport makes it writable again; the transport is still a frame transport by then -/
theorem px_runWsSend (ti : Nat) (batch : List Pkt) (hnp : (w.tr ti).isPolling = false) (p : PollX w) :
    PollX (runWsSend w ti batch) := by
  unfold runWsSend; dsimp only
  have p1 := px_trEmitDrain ti (px_wsSendLoop ti batch p)
  have hk := ((only_trEmitDrain routine_calm ti (only_wsSendLoop routine_calm ti batch (.refl w))).toCalm.mono.kind ti).trans hnp
  generalize trEmitDrain (wsSendLoop ti batch w) ti = w1 at p1 hk ⊢
  exact px_trEmitReady _ (px_setTr ti _ p1 fun h => ⟨fun a _ _ => absurd (hk.symm.trans a) Bool.false_ne_true, h.p2, h.p3⟩)

theorem px_runTask (t : Task) (hk : taskKindOK w t) (p : PollX w) : PollX (runTask w t) := by
  cases t with
  | pollSend ti b => rw [runTask]; exact px_runPollSend ti b p
  | wsSend ti b => rw [runTask]; exact px_runWsSend ti b hk.2 p

theorem px_settle (f : Nat) (p : PollX w) : PollX (settle f w) := by
  refine settle_ind (fun w t rest hq p => ?_) f p
  have p1 : PollX ({ w with tasks := rest } : World) := ⟨p.tr, fun t' ht' => p.tk t' (hq ▸ List.mem_cons_of_mem _ ht')⟩
  exact px_runTask t (p.tk t (hq ▸ List.mem_cons_self)) p1

theorem px_pushTr {w' : World} (t : Tr) (ht : PollT t) (p : PollX w) (htrs : w'.trs = w.trs.push t := by rfl)
    (hq : w'.tasks = w.tasks := by rfl) : PollX w' := by
  refine ⟨fun j => ?_, fun tk htk => ?_⟩
  · rw [tr_push htrs]; split
    · exact ht
    · exact p.tr j
  · have := p.tk tk (hq ▸ htk)
    cases tk with
    | wsSend ti b =>
      refine ⟨by rw [htrs, Array.size_push]; exact Nat.lt_succ_of_lt this.1, ?_⟩
      rw [tr_push htrs, if_neg (Nat.ne_of_lt this.1)]; exact this.2
    | pollSend ti b =>
      show (w'.tr ti).isPolling = true
      rw [tr_push htrs, if_neg (Nat.ne_of_lt (tr_in_table (·.isPolling) rfl this))]; exact this

theorem PollT.fresh {t : Tr} (hr : t.rs = .open_) (hc : t.closeWait = false) (hq : t.req = none) : PollT t :=
  ⟨fun _ c _ => (by rw [hr] at c; cases c), fun c => (by rw [hc] at c; cases c), fun c => (by rw [hq] at c; cases c)⟩

theorem px_openPackets (sid : Nat) (nm : String) (p : PollX w) : PollX (openPackets w sid nm) := by
  unfold openPackets
  have p1 := px_sendPacket sid { typ := .open, data := some ⟨.text, jsonOpen w sid nm⟩, compress := true } none p
  dsimp only; split
  · exact px_sendPacket _ _ _ p1
  · exact p1

theorem px_openSession (ti proto : Nat) (p : PollX w) : PollX (openSession w ti proto) := by
  unfold openSession; dsimp only
  generalize hwp : openPackets _ w.socks.size (w.tr ti).name = wp
  have p1 : PollX wp := hwp ▸ px_openPackets _ _ (px_setSock _ _ (px_touch _ _ (px_fields _ p)))
  unfold openAnnounce
  exact px_sev _ _ (px_setSock _ _ (px_fields _ p1))

theorem px_onPollRequest (ti r : Nat) (hpol : (w.tr ti).isPolling = true) (hnc : (w.tr ti).rs ≠ .closed) (p : PollX w) :
    PollX (onPollRequest w ti r) := by
  unfold onPollRequest
  refine ite_ind (fun _ => px_answer _ _ (px_trOnError _ p)) fun _ => ?_
  have p1 := px_trEmitReady ti (px_setReq r (fun q => { q with pollOf := some ti })
    (px_setTr ti (fun t => { t with req := some r, writable := true }) p fun h => ⟨fun _ c _ => absurd c hnc, h.p2, fun _ => hpol⟩))
  exact ite_ind (fun hw => px_trSend _ _ (tr_in_table (·.writable) rfl hw.1) p1) fun _ => p1

theorem px_hsPolling (proto : Nat) (b64 : Bool) (j : Option Bytes) (p : PollX w) : PollX (hsPolling w proto b64 j) := by
  unfold hsPolling
  have p0 : PollX ({ w with reqs := w.reqs.push { hasSid := false } } : World) := px_fields _ p
  dsimp only
  refine ite_ind (fun _ => px_rejectReq _ _ _ p0) fun _ => ite_ind (fun _ => px_rejectReq _ _ _ p0) fun _ => ?_
  refine px_openSession _ _ ?_
  generalize hw1 : ({ w with reqs := _, trs := _ } : World) = w1
  have ht : w1.tr w.trs.size = { isPolling := true, proto, b64, jsonp := j.map jsonpDigits } := tr_pushed (hw1 ▸ rfl)
  have p1 : PollX w1 := hw1 ▸ px_pushTr _ (.fresh rfl rfl rfl) p0
  exact px_onPollRequest _ _ (by rw [ht]) (by rw [ht]; simp) p1

theorem px_hsWebsocket (proto : Nat) (b64 : Bool) (p : PollX w) : PollX (hsWebsocket w proto b64) := by
  unfold hsWebsocket
  have p0 : PollX ({ w with conns := w.conns.push {} } : World) := px_fields _ p
  dsimp only
  refine ite_ind (fun _ => px_setConn _ _ p0) fun _ => ite_ind (fun _ => px_setConn _ _ (px_ev _ p0)) fun _ => ?_
  exact px_openSession _ _ (px_pushTr _ (.fresh rfl rfl rfl) p0)

theorem px_hsWt (p : PollX w) : PollX (hsWt w) := by
  unfold hsWt
  exact px_openSession _ _ (px_pushTr (w := w) _ (.fresh rfl rfl rfl) p)

/-- the session a poll names is registered, hence live, hence its transport is not closed -/
theorem px_pollReq (sid : Nat) (ae : Bytes) (i : Inv w) (l : Link w) (p : PollX w) : PollX (pollReq w sid ae) := by
  unfold pollReq
  have p0 : PollX ({ w with reqs := w.reqs.push { ae } } : World) := px_fields _ p
  dsimp only; split
  · exact px_rejectReq _ _ _ p0
  · rename_i s hl
    obtain ⟨hs, hin⟩ := lookup_reg _ _ _ hl
    subst hs
    refine ite_ind (fun _ => px_rejectReq _ _ _ p0) fun hpol => px_onPollRequest _ _ (Decidable.not_not.mp hpol) ?_ p0
    obtain ⟨hnc, hsz, _⟩ := i.regLive sid hin
    exact (l.linkOK sid hsz hnc).2

theorem px_pollDeliver (ti : Nat) (pkts : List Pkt) (l : Link w) (p : PollX w) : PollX (pollDeliver ti pkts w) :=
  (pollDeliver_ind (P := fun w => Link w ∧ PollX w) ti pkts (fun _ h => ⟨lk_pollOnClose _ h.1, px_pollOnClose _ h.2⟩)
    (fun _ _ _ h => ⟨lk_trEmitPacket _ _ h.1, px_trEmitPacket _ _ h.1 h.2⟩) ⟨l, p⟩).2

theorem px_pollOnData (ti : Nat) (body : Bytes) (binary : Bool) (l : Link w) (p : PollX w) : PollX (pollOnData w ti body binary).1 := by
  unfold pollOnData; split
  · exact px_pollDeliver _ _ l p
  · exact p
  · exact px_fields _ p

theorem px_postReq (sid : Nat) (binary declared : Bool) (body : Bytes) (vj : Bool) (l : Link w) (p : PollX w) :
    PollX (postReq w sid binary declared body vj) := by
  unfold postReq
  have p0 : PollX ({ w with reqs := w.reqs.push { isPost := true, consumed := some 0 } } : World) := px_fields _ p
  have l0 := lk_pushReq { isPost := true, consumed := some 0 } l
  dsimp only; split
  · exact px_rejectReq _ _ _ p0
  · refine ite_ind (fun _ => px_rejectReq _ _ _ p0) fun _ => ?_
    refine ite_ind (fun _ => px_answer _ _ (px_trOnError _ p0)) fun _ => ?_
    refine ite_ind (fun _ => px_answer _ _ p0) fun _ => ?_
    refine ite_ind (fun _ => px_answer _ _ (px_setReq _ _ p0)) fun _ => ?_
    generalize hw1 : World.setTr _ _ _ = w1
    have p1 : PollX w1 := hw1 ▸ px_touch _ _ (px_setReq _ _ p0)
    have l1 : Link w1 := hw1 ▸ lk_setTr _ _ (lk_setReq _ _ l0)
    refine ite_ind (fun _ => px_trOnError _ (px_setReq _ _ (px_touch _ _ ?_))) fun _ =>
      px_answer _ _ (px_emitHeaders _ _ (px_touch _ _ ?_))
    all_goals
      split
      · exact px_pollOnData _ _ _ l1 p1
      · exact p1

theorem px_abortReq (r : Nat) (p : PollX w) : PollX (abortReq w r) := by
  unfold abortReq
  refine ite_ind (fun _ => p) fun _ => ?_
  dsimp only; split
  · exact ite_ind (fun _ => px_trOnError _ (px_setTr _ _ (px_setReq _ _ p) fun h => h.keep rfl rfl id (fun _ => rfl) .inl))
      fun _ => px_setReq _ _ p
  · exact px_setReq _ _ p

theorem px_wsCandidate (sid proto : Nat) (b64 : Bool) (p : PollX w) : PollX (wsCandidate w sid proto b64) := by
  unfold wsCandidate
  have p0 : PollX ({ w with conns := w.conns.push {} } : World) := px_fields _ p
  dsimp only
  refine ite_ind (fun _ => px_setConn _ _ (px_setConn _ _ p0)) fun _ => ?_
  split
  · exact px_setConn _ _ (px_setConn _ _ (px_ev _ p0))
  · exact ite_ind (fun _ => px_setConn _ _ p0) fun _ => px_setSock _ _ (px_pushTr _ (.fresh rfl rfl rfl) p0)

theorem px_wtCandidate (sid : Nat) (p : PollX w) : PollX (wtCandidate w sid) := by
  unfold wtCandidate
  have p0 : PollX ({ w with conns := w.conns.push { wt := true } } : World) := px_fields _ p
  dsimp only; split
  · exact px_setConn _ _ p0
  · exact ite_ind (fun _ => px_setConn _ _ p0) fun _ => px_setSock _ _ (px_pushTr _ (.fresh rfl rfl rfl) p0)

theorem px_wsFrame (c : Nat) (m : Msg) (l : Link w) (p : PollX w) : PollX (wsFrame w c m).1 := by
  rw [wsFrame_fst]
  refine ite_ind (fun _ => p) fun _ => ?_
  split
  · exact p
  · exact ite_ind (fun _ => px_trOnError _ (px_setConn _ _ p)) fun _ => px_trEmitPacket _ _ l p

theorem trOfConn_kind (w : World) (c ti : Nat) (h : trOfConn w c = some ti) : (w.tr ti).isPolling = false := by
  unfold trOfConn at h
  have h2 : ¬ (w.tr ti).isPolling = true ∧ (w.tr ti).conn = c := by simpa using List.find?_some h
  exact Bool.eq_false_iff.mpr h2.1

theorem px_wsDrop (c : Nat) (p : PollX w) : PollX (wsDrop w c) := by
  unfold wsDrop
  refine ite_ind (fun _ => px_setConn _ _ p) fun _ => ?_
  dsimp only; split
  · rename_i ti hti
    have hk := trOfConn_kind _ c ti hti
    exact ite_ind (fun _ => px_trOnError _ (px_setConn _ _ (px_setConn _ _ p))) fun _ =>
      px_trOnCloseBase _ (px_setConn _ _ (px_setConn _ _ p)) fun a => by rw [hk] at a; cases a
  · exact px_setConn _ _ (px_setConn _ _ p)

theorem px_appClose (sid : Nat) (discard : Bool) (p : PollX w) : PollX (appClose w sid discard) := by
  unfold appClose
  refine ite_ind (fun _ => px_closeTransport _ _ p) fun _ => ite_ind (fun _ => p) fun _ => ?_
  exact ite_ind (fun _ => px_setSock _ _ (px_setSock _ _ p)) fun _ => px_closeTransport _ _ (px_setSock _ _ p)

theorem px_shutdown (p : PollX w) : PollX (shutdown w) := foldl_ind (fun _ _ p => px_appClose _ _ p) p

theorem px_appSend (sid : Nat) (m : Msg) (compress wantCb : Bool) (pre : Option Msg) (p : PollX w) :
    PollX (appSend w sid m compress wantCb pre) := by
  unfold appSend
  exact px_sendPacket _ _ _ (ite_ind (fun _ => px_fields _ p) fun _ => p)

theorem px_fireTimer (id : TimerId) (p : PollX w) : PollX (fireTimer w id) := by
  cases id with
  | pingInterval sid => exact px_setSock _ _ (px_sendPacket _ _ _ (px_setSock _ _ p))
  | pingTimeout sid =>
    exact ite_ind (fun _ => px_setSock _ _ p) fun _ => px_sockOnClose _ _ _ (px_setSock _ _ p)
  | closeTimer ti =>
    exact ite_ind (fun _ => px_pollOnClose _ (px_runCloseFn _ (px_touch _ _ p))) fun hnp =>
      px_wsCloseNow _ (px_touch _ _ p) (Bool.eq_false_iff.mpr hnp)
  | upgradeTimeout sid =>
    rw [fireTimer]; split
    · exact ite_ind (fun _ => px_trClose _ _ (px_candCleanup _ p)) fun _ => px_candCleanup _ p
    · exact p
  | check sid =>
    rw [fireTimer]; split
    · exact ite_ind (fun hw => px_trSend _ _ (tr_in_table (·.writable) rfl hw.2) (px_setSock _ _ p)) fun _ => px_setSock _ _ p
    · exact p

theorem px_advance (f target : Nat) (p : PollX w) : PollX (advance f w target) :=
  advance_ind target (fun _ _ p => px_fields _ p) (fun _ _ p => px_fireTimer _ p) f p

theorem px_observe (p : PollX w) : PollX (observe w) := by
  unfold observe
  refine foldl_ind (fun _ _ p => px_setConn _ _ p) (foldl_ind (fun _ _ p => ?_) (px_fields _ p))
  exact ite_ind (fun _ => px_setReq _ _ p) fun _ => p

theorem step_px (w : World) (op : Op) (i : Inv w) (l : Link w) (p : PollX w) : PollX (step w op) := by
  unfold step
  refine ite_ind (fun _ => p) fun _ => ?_
  cases op with
  | hsPolling pr b j => exact px_hsPolling _ _ _ p
  | hsWebsocket pr b => exact px_hsWebsocket _ _ p
  | poll sid ae => exact px_pollReq _ _ i l p
  | post sid bin decl body vj => exact px_postReq _ _ _ _ _ l p
  | abort r => exact px_abortReq _ p
  | wsCandidate sid pr b => exact px_wsCandidate _ _ _ p
  | hsWt => exact px_hsWt p
  | wtCandidate sid => exact px_wtCandidate _ p
  | frame c m => exact ite_ind (fun _ => p) fun _ => px_wsFrame _ _ l p
  | drop c => exact px_wsDrop _ p
  | closeFrame c code => exact px_wsDrop _ (px_setConn _ _ p)
  | send sid m c cb pre => exact px_appSend _ _ _ _ _ p
  | close sid d => exact px_appClose _ _ p
  | shutdown => exact px_shutdown p
  | adv d => exact px_advance _ _ p
  | settle => exact px_settle _ p
  | observe => exact px_observe p

theorem px_init (o : Opts) : PollX (init o) := by
  refine ⟨fun ti => ?_, fun t h => by cases h⟩
  rw [tr_oob (init o) ti (Nat.zero_le _)]
  exact .fresh rfl rfl rfl

end EIO.Ses
