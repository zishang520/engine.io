import EIO.Lemmas.World
/-
Sending on a session that is not waiting for a drain to close: `flush` and `sendPacket` move packets and callbacks
between the buffers of the session and change nothing else of any session record (`Buffers`); in particular every
session is as open as it was (`Quiet`).
-/
namespace EIO.Ses
open EIO EIO.Codec

@[simp] theorem rs_ite (c : Prop) [Decidable c] (a b : Sock) : (if c then a else b).rs = if c then a.rs else b.rs :=
  apply_ite Sock.rs c a b
@[simp] theorem drainClose_ite (c : Prop) [Decidable c] (a b : Sock) :
    (if c then a else b).drainClose = if c then a.drainClose else b.drainClose := apply_ite Sock.drainClose c a b
@[simp] theorem sentCb_ite (c : Prop) [Decidable c] (a b : Sock) :
    (if c then a else b).sentCb = if c then a.sentCb else b.sentCb := apply_ite Sock.sentCb c a b

/-- sending moves packets and callbacks between the buffers of a session: no other part of a session record changes,
    nor the clock, the options, the registry or the number of sessions -/
structure Buffers (w w' : World) : Prop where
  now : w'.now = w.now
  o : w'.o = w.o
  size : w'.socks.size = w.socks.size
  registry : w'.registry = w.registry
  sock : ∀ j, ∃ b c p, w'.sock j = { w.sock j with wbuf := b, sentCb := c, packetsFn := p }

theorem Buffers.refl (w : World) : Buffers w w := ⟨rfl, rfl, rfl, rfl, fun _ => ⟨_, _, _, rfl⟩⟩
theorem Buffers.trans {a b c : World} (h1 : Buffers a b) (h2 : Buffers b c) : Buffers a c := by
  refine ⟨h2.now.trans h1.now, h2.o.trans h1.o, h2.size.trans h1.size, h2.registry.trans h1.registry, fun j => ?_⟩
  obtain ⟨_, _, _, e1⟩ := h1.sock j
  obtain ⟨_, _, _, e2⟩ := h2.sock j
  exact ⟨_, _, _, by rw [e2, e1]⟩

theorem flushF_buffers (f : Nat) (w : World) (sid : Nat) (hdc : (w.sock sid).drainClose = none) :
    Buffers w (flushF f w sid) := by
  cases f with
  | zero => rw [flushF]; exact .refl w
  | succ f =>
    rw [flushF]
    dsimp only
    split
    · exact .refl w
    · split
      · rename_i d hd
        simp [hdc] at hd
      · refine ⟨by simp, by simp, by simp, by simp, fun j => ?_⟩
        simp only [sock_ev, sock_sev, sock_trSend, sock_setSock]
        split <;> exact ⟨_, _, _, rfl⟩

theorem sendPacket_buffers (w : World) (sid : Nat) (p : Pkt) (cb : Option Nat) (hdc : (w.sock sid).drainClose = none) :
    Buffers w (sendPacket w sid p cb) := by
  unfold sendPacket
  dsimp only
  split
  · exact .refl w
  · refine Buffers.trans ⟨by simp, by simp, by simp, by simp, fun j => ?_⟩ (flushF_buffers _ _ _ (by rw [sock_setSock]; split <;> simp [hdc]))
    rw [sock_setSock, sock_sev]
    split <;> exact ⟨_, _, _, rfl⟩

/-- what does not change when a packet is sent on a session that is not waiting for a drain to close -/
structure Quiet (w w' : World) : Prop where
  size : w'.socks.size = w.socks.size
  registry : w'.registry = w.registry
  rs : ∀ j, (w'.sock j).rs = (w.sock j).rs
  announced : ∀ j, (w'.sock j).announced = (w.sock j).announced
  drainClose : ∀ j, (w'.sock j).drainClose = (w.sock j).drainClose

theorem Quiet.trans {a b c : World} (h1 : Quiet a b) (h2 : Quiet b c) : Quiet a c :=
  ⟨h2.size.trans h1.size, h2.registry.trans h1.registry, fun j => (h2.rs j).trans (h1.rs j),
   fun j => (h2.announced j).trans (h1.announced j), fun j => (h2.drainClose j).trans (h1.drainClose j)⟩

theorem Buffers.quiet {w w' : World} (b : Buffers w w') : Quiet w w' := by
  refine ⟨b.size, b.registry, fun j => ?_, fun j => ?_, fun j => ?_⟩
  all_goals obtain ⟨_, _, _, e⟩ := b.sock j; rw [e]

theorem sendPacket_quiet (w : World) (sid : Nat) (p : Pkt) (cb : Option Nat) (hdc : (w.sock sid).drainClose = none) :
    Quiet w (sendPacket w sid p cb) := (sendPacket_buffers w sid p cb hdc).quiet

theorem openPackets_quiet (w : World) (sid : Nat) (trName : String) (hdc : (w.sock sid).drainClose = none) :
    Quiet w (openPackets w sid trName) := by
  unfold openPackets
  dsimp only
  have q1 := sendPacket_quiet w sid { typ := .open, data := some ⟨.text, jsonOpen w sid trName⟩, compress := true } none hdc
  split
  · exact q1.trans (sendPacket_quiet _ _ _ _ (by rw [q1.drainClose]; exact hdc))
  · exact q1

end EIO.Ses
