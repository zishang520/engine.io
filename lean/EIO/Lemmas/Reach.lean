import EIO.Lemmas.SesOps
import EIO.Lemmas.LinkStep
import EIO.Lemmas.HbStep
import EIO.Lemmas.PollStep
import EIO.Lemmas.PendStep
import EIO.Lemmas.Conn
/-
What holds in every reachable world `run o ops`, for every configuration and every finite sequence of operations:
each invariant holds at the start (`*_init`), every operation keeps it (`step_*`), some of them given the ones before
it (`run_induction_of`).
-/
namespace EIO.Ses
open EIO EIO.Codec

theorem inv_init (o : Opts) : Inv (init o) := by
  have hs : ∀ sid, (init o).sock sid = default := fun sid => sock_oob _ sid (Nat.zero_le _)
  refine ⟨logOK_nil, fun sid h => absurd h (closeIn_nil sid), fun sid h => ?_, fun sid => ?_, (fun _ h => by cases h),
    List.nodup_nil, fun sid h => ?_, ⟨fun sid => ?_, (fun _ h => by cases h), logHist_nil, flushTight_nil⟩, (fun _ h => by cases h)⟩
  · rw [closedW, hs] at h; cases h
  · rw [hs]; exact ⟨nofun, nofun, nofun⟩
  · rw [hs] at h; cases h
  · rw [hs]; exact ⟨⟨[], rfl, fun _ => rfl⟩, ⟨[], rfl, fun _ => rfl⟩, ⟨[], rfl, fun _ => rfl⟩, rfl⟩

theorem reach_inv (o : Opts) (ops : List Op) : Inv (run o ops) :=
  run_induction o ops (inv_init o) fun w op hi => (step_pres w op hi).1

theorem run_ext (o : Opts) (ops ops' : List Op) : Ext (run o ops) (run o (ops ++ ops')) := by
  rw [run_append]
  exact (foldl_ind (P := fun w => Inv w ∧ Ext (run o ops) w) (fun w op h => ⟨(step_pres w op h.1).1, h.2.trans (step_pres w op h.1).2⟩)
    ⟨reach_inv o ops, Ext.refl _⟩).2

theorem reach_link (o : Opts) (ops : List Op) : Link (run o ops) :=
  run_induction_of reach_inv o ops (link_init o) fun w op i l => step_link w op (fun s hs => (i.regLive s hs).2.1) l

theorem reach_inv_link (o : Opts) (ops : List Op) : Inv (run o ops) ∧ Link (run o ops) := ⟨reach_inv o ops, reach_link o ops⟩

theorem reach_hb (o : Opts) (ops : List Op) : HB (run o ops) :=
  run_induction_of reach_inv o ops (hb_init o) fun w op i h => step_hb w op i h

theorem reach_px (o : Opts) (ops : List Op) : PollX (run o ops) :=
  run_induction_of (Q := fun w => Inv w ∧ Link w) reach_inv_link o ops (px_init o) fun w op ⟨i, l⟩ p => step_px w op i l p

theorem reach_pd (o : Opts) (ops : List Op) : PendX none (run o ops) := run_induction o ops (pd_init o) step_pd

theorem reach_conn (o : Opts) (ops : List Op) : ConnInv (run o ops) := run_induction o ops (conn_init o) step_conn

end EIO.Ses
