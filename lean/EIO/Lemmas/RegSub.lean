import EIO.Lemmas.Only
/-
The close paths register nobody: the client table after any of them is a sublist (as a set) of the table before.
It is what `Only` says of a stretch that has no licence to create a session.
-/
namespace EIO.Ses
open EIO EIO.Codec

/-- every registered session of `w'` was registered in `w` -/
def RegSub (w w' : World) : Prop := ∀ sid ∈ w'.registry, sid ∈ w.registry

theorem RegSub.refl (w : World) : RegSub w w := fun _ h => h
theorem RegSub.trans {a b c : World} (h1 : RegSub a b) (h2 : RegSub b c) : RegSub a c := fun s h => h1 s (h2 s h)

/-- every log entry, no new session -/
def May.noCreate : May := { May.any with create := False }

theorem Only.regSub {w w' : World} (h : Only May.noCreate w w') : RegSub w w' := h.reg id

theorem rs_appClose (w : World) (sid : Nat) (d : Bool) : RegSub w (appClose w sid d) :=
  (only_appClose (routine_of_all fun _ => trivial) sid d (Only.refl w)).regSub

theorem rs_trOnErrorF (f : Nat) (w : World) (ti : Nat) : RegSub w (trOnErrorF f w ti) :=
  ((onlyClose (routine_of_all fun _ => trivial) f).trOnErrorF w ti (Only.refl w)).regSub

end EIO.Ses
