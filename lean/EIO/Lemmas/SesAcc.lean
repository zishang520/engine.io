import EIO.Lemmas.SesInv
/-
Steps that enter the accounts: one update of a session's record together with a run of entries of that session, none
of them a close event. `acc_core` says what such a step must show to preserve the invariant; for a single entry it
comes down to four balances between the entry and the record (`AccS.snoc`, `pr_accStep1`). The instances are
packetCreate (sendPacket), flush (flush), upgrade (MaybeUpgrade), and the callbacks of a drained batch (onDrain), the one
step that logs several entries at once.
-/
namespace EIO.Ses
open EIO EIO.Codec

/-- The accounts are queues in a row — accepted, buffered, handed over, run — and an entry moves items from one
    to the next: what the entry adds on the left of each balance, the new session record has on the right. -/
theorem AccS.snoc {s s' : Sock} {sid : Nat} {l : List (Nat × SEv)} (a : AccS s sid l) (hnc : s.rs ≠ .closed) (e : SEv)
    (hpk : s.wbuf ++ fCreatedPkt e = fFlushedPkt e ++ s'.wbuf)
    (hcb : s.packetsFn ++ fCreatedCb e = fFlushedCb e ++ s'.packetsFn)
    (hrun : s.sentCb.flatten ++ fFlushedCb e = fRanCb e ++ s'.sentCb.flatten)
    (hup : (if s.upgraded then 1 else 0) + (fUpgrade e).length = if s'.upgraded then 1 else 0) :
    AccS s' sid (l ++ [(sid, e)]) := by
  obtain ⟨r1, e1, i1⟩ := a.pk
  obtain ⟨r2, e2, i2⟩ := a.cb
  obtain ⟨r3, e3, i3⟩ := a.run
  cases i1 hnc; cases i2 hnc; cases i3 hnc
  refine ⟨⟨_, ?_, fun _ => rfl⟩, ⟨_, ?_, fun _ => rfl⟩, ⟨_, ?_, fun _ => rfl⟩, ?_⟩
  · rw [proj_snoc_self, proj_snoc_self, e1, List.append_assoc, hpk, List.append_assoc]
  · rw [proj_snoc_self, proj_snoc_self, e2, List.append_assoc, hcb, List.append_assoc]
  · rw [proj_snoc_self, proj_snoc_self, e3, List.append_assoc, hrun, List.append_assoc]
  · unfold upgradeCount; rw [proj_snoc_self, List.length_append, ← hup]; exact congrArg (· + _) a.up

/-- callbacks run from the head of the queue -/
theorem AccS.ran {sid : Nat} (cbs : List Nat) (q : List (List Nat)) : ∀ {s : Sock} {l : List (Nat × SEv)}, AccS s sid l →
    s.rs ≠ .closed → s.sentCb.flatten = cbs ++ q.flatten → AccS { s with sentCb := q } sid (l ++ entries sid (cbs.map .cb)) := by
  induction cbs with
  | nil => intro s l a _ h; rw [List.map_nil, entries_nil, List.append_nil]; exact a.congr Iff.rfl rfl rfl h.symm rfl
  | cons c cbs ih =>
    intro s l a hnc h
    have a1 : AccS { s with sentCb := cbs :: q } sid (l ++ [(sid, .cb c)]) :=
      a.snoc hnc (.cb c) (List.append_nil _) (List.append_nil _) (by rw [h]; exact List.append_nil _) rfl
    have := ih a1 hnc rfl
    rwa [List.append_assoc] at this

theorem acc_core (w w' : World) (sid : Nat) (es : List SEv) (i : Inv w)
    (hes : ∀ e ∈ es, e.isClose = false) (hnc : ¬ closedW w sid) (hsz : sid < w.socks.size)
    (size : w'.socks.size = w.socks.size)
    (other : ∀ j, j ≠ sid → w'.sock j = w.sock j)
    (hrs : (w'.sock sid).rs = (w.sock sid).rs)
    (hann : (w'.sock sid).announced = (w.sock sid).announced) (hproto : (w'.sock sid).proto = (w.sock sid).proto)
    (hok : SockOK (w'.sock sid))
    (hlog : w'.slog = w.slog ++ entries sid es)
    (hreg : w'.registry = w.registry) (hreqs : ReqsExt w w')
    (hacc : AccS (w'.sock sid) sid w'.slog)
    (hhist : ∀ k, HistAt sid (w.slog ++ entries sid (es.take k)))
    (htight : ∀ k b c, es[k]? = some (SEv.flush b c) → TightAt sid (w.slog ++ entries sid (es.take (k + 1)))) :
    Inv w' ∧ Ext w w' := by
  have h := i.ses sid
  have hci : closeIn sid w'.slog ↔ closeIn sid w.slog := by
    rw [hlog]; exact closeIn_append_noclose (fun x hx _ => by obtain ⟨e, he, rfl⟩ := List.mem_map.mp hx; exact hes e he) _
  refine inv_step i sid es hlog (fun j hj => other j hj ▸ SockSame.refl _) (Nat.le_of_eq size.symm) (fun j _ => by rw [hreg]) hreqs
    ?_ (hreg ▸ i.regNodup) ?_ ⟨hrs ▸ Nat.le_refl _, fun _ => hproto, fun x => hann ▸ x, fun x => Or.inl (hreg ▸ x)⟩
  · rw [hlog, size]; exact LogInv.append_ses sid es hes hsz i.log (fun hc => hnc (i.logClosed sid hc)) hhist htight
  · refine ⟨fun hc => hrs ▸ h.logClosed (hci.mp hc), fun hc => hci.mpr (h.closedLog (hrs ▸ hc)), hok, fun hm => ?_,
      fun ha => hreg ▸ hrs ▸ h.annReg (hann ▸ ha), hacc⟩
    obtain ⟨a, b, c, d⟩ := h.regLive (hreg ▸ hm)
    exact ⟨hrs ▸ a, size ▸ b, hann ▸ c, hrs ▸ d⟩

theorem foldl_sev (sid : Nat) (es : List SEv) : ∀ w : World,
    (es.foldl (fun w e => w.sev sid e) w).slog = w.slog ++ entries sid es ∧ (es.foldl (fun w e => w.sev sid e) w).socks = w.socks ∧
    (es.foldl (fun w e => w.sev sid e) w).registry = w.registry ∧ (es.foldl (fun w e => w.sev sid e) w).reqs = w.reqs := by
  induction es with
  | nil => intro w; exact ⟨(List.append_nil _).symm, rfl, rfl, rfl⟩
  | cons e es ih =>
    intro w
    obtain ⟨a, b, c, d⟩ := ih (w.sev sid e)
    exact ⟨by rw [List.foldl_cons, a, slog_sev, List.append_assoc]; rfl, b.trans (socks_sev ..), c.trans (registry_sev ..),
      d.trans (reqs_sev ..)⟩

theorem pres_accSteps (w : World) (sid : Nat) (es : List SEv) (f : Sock → Sock)
    (hes : ∀ e ∈ es, e.isClose = false) (hnc : ¬ closedW w sid) (hsz : sid < w.socks.size)
    (hrs : (f (w.sock sid)).rs = (w.sock sid).rs)
    (hann : (f (w.sock sid)).announced = (w.sock sid).announced) (hproto : (f (w.sock sid)).proto = (w.sock sid).proto)
    (hok : SockOK (w.sock sid) → SockOK (f (w.sock sid)))
    (hacc : AccS (w.sock sid) sid w.slog → AccS (f (w.sock sid)) sid (w.slog ++ entries sid es))
    (hhist : AccS (w.sock sid) sid w.slog → ∀ k, HistAt sid (w.slog ++ entries sid (es.take k)))
    (htight : AccS (w.sock sid) sid w.slog → ∀ k b c, es[k]? = some (SEv.flush b c) →
      TightAt sid (w.slog ++ entries sid (es.take (k + 1)))) :
    Pres w (es.foldl (fun w e => w.sev sid e) (w.setSock sid f)) := by
  intro i
  obtain ⟨hl, hso, hr, hq⟩ := foldl_sev sid es (w.setSock sid f)
  have hsk : ∀ j, (es.foldl (fun w e => w.sev sid e) (w.setSock sid f)).sock j = (w.setSock sid f).sock j := fun j => by
    unfold World.sock; rw [hso]
  have hs : (es.foldl (fun w e => w.sev sid e) (w.setSock sid f)).sock sid = f (w.sock sid) := by
    rw [hsk, sock_setSock_self _ _ _ hsz]
  have a := i.acc.ses sid
  refine acc_core w _ sid es i hes hnc hsz (by rw [hso]; exact socks_size_setSock w sid f)
    (fun j hj => by rw [hsk, sock_setSock_other _ _ _ _ hj]) ?_ ?_ ?_ ?_ hl hr ?_ ?_ (hhist a) (htight a)
  · rw [hs]; exact hrs
  · rw [hs]; exact hann
  · rw [hs]; exact hproto
  · rw [hs]; exact hok (i.sockOK sid)
  · unfold ReqsExt; rw [hq]; exact ReqsExt.refl w
  · rw [hs, hl]; exact hacc a

/-- `setSock sid f` followed by one entry `e` of `sid`: the four balances of `AccS.snoc`; a flush entry must
    leave both buffers empty -/
theorem pr_accStep1 {w0 w : World} (sid : Nat) (e : SEv) (f : Sock → Sock)
    (he : e.isClose = false) (hnc : (w.sock sid).rs ≠ .closed) (hsz : sid < w.socks.size)
    (hrs : (f (w.sock sid)).rs = (w.sock sid).rs)
    (hann : (f (w.sock sid)).announced = (w.sock sid).announced) (hproto : (f (w.sock sid)).proto = (w.sock sid).proto)
    (hok : SockOK (w.sock sid) → SockOK (f (w.sock sid)))
    (hpk : (w.sock sid).wbuf ++ fCreatedPkt e = fFlushedPkt e ++ (f (w.sock sid)).wbuf)
    (hcb : (w.sock sid).packetsFn ++ fCreatedCb e = fFlushedCb e ++ (f (w.sock sid)).packetsFn)
    (hrun : (w.sock sid).sentCb.flatten ++ fFlushedCb e = fRanCb e ++ (f (w.sock sid)).sentCb.flatten)
    (hup : (if (w.sock sid).upgraded then 1 else 0) + (fUpgrade e).length = if (f (w.sock sid)).upgraded then 1 else 0)
    (htight : ∀ b c, e = SEv.flush b c → (f (w.sock sid)).wbuf = [] ∧ (f (w.sock sid)).packetsFn = [])
    (h : Pres w0 w) : Pres w0 ((w.setSock sid f).sev sid e) := by
  have hacc := fun a : AccS (w.sock sid) sid w.slog => a.snoc hnc e hpk hcb hrun hup
  refine h.trans (pres_accSteps w sid [e] f (fun x hx => by cases List.mem_singleton.mp hx; exact he) hnc hsz hrs hann hproto hok hacc
    (fun a k => ?_) fun a k b c hk => ?_)
  · cases k with
    | zero => rw [List.take_zero, entries_nil, List.append_nil]; exact a.histAt
    | succ k => rw [List.take_of_length_le (Nat.succ_le_succ (Nat.zero_le k))]; exact (hacc a).histAt
  · cases k with
    | zero =>
      cases (Option.some.inj hk : e = _)
      obtain ⟨r1, e1, i1⟩ := (hacc a).pk
      obtain ⟨r2, e2, i2⟩ := (hacc a).cb
      have hn' : (f (w.sock sid)).rs ≠ .closed := hrs ▸ hnc
      rw [i1 hn', (htight b c rfl).1, List.append_nil] at e1
      rw [i2 hn', (htight b c rfl).2, List.append_nil] at e2
      exact ⟨e1, e2⟩
    | succ k => cases hk

end EIO.Ses
