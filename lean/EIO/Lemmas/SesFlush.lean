import EIO.Lemmas.SesStep
import EIO.Lemmas.SesAcc
import EIO.Lemmas.Quiet
/-
The functions that log events of a session: flush, sendPacket, onDrain and the upgrade (entries that enter the accounts:
`pr_accStep1`, `pres_accSteps`), onPacket (entries that do not: `pr_sev`). An event may only be logged for a session
that is not closed; where one follows a send, `Quiet` (Lemmas/Quiet.lean) says that the send has left the session as
open as it was.
-/
namespace EIO.Ses
open EIO EIO.Codec

theorem pr_flushF {w0 w : World} (f : Nat) (sid : Nat) (h : Pres w0 w) : Pres w0 (flushF f w sid) := by
  cases f with
  | zero => rw [flushF]; exact h
  | succ f =>
    rw [flushF]
    refine ite_ind (fun _ => h) fun hg => pr_ev _ ?_
    have hnc : (w.sock sid).rs ≠ .closed := fun hc => hg (Or.inl hc)
    have hsz : sid < w.socks.size := Nat.lt_of_not_le fun hle => hg (Or.inr (Or.inr (by rw [sock_oob w sid hle]; rfl)))
    -- the batch is handed over: the buffers move to the log, the callbacks to the queue
    have h1 : Pres w0 ((w.setSock sid fun s => { s with wbuf := [], sentCb := s.sentCb ++ [s.packetsFn], packetsFn := [] }).sev sid
        (.flush (w.sock sid).wbuf (w.sock sid).packetsFn)) :=
      pr_accStep1 sid _ _ rfl hnc hsz rfl rfl rfl (fun o => ⟨fun hc => absurd hc hnc, o.dc, o.cu⟩)
        rfl rfl (by simp [fFlushedCb, fRanCb]) rfl
        (fun _ _ _ => ⟨rfl, rfl⟩) h
    generalize hd : World.sev _ sid SEv.drain = wd
    have h2 : Pres w0 wd := by
      subst wd
      refine pr_sev _ _ ?_ rfl rfl (pr_trSend _ _ (pr_ev _ h1))
      rw [closedW, sock_trSend, sock_ev, sock_sev, sock_setSock]
      split <;> exact hnc
    split
    · refine pr_closeTransportF _ _ _ (pr_setSock _ _ (Nat.le_refl _) Iff.rfl (fun _ => rfl) (fun _ => rfl) (fun _ o => ⟨o.cb, nofun, o.cu⟩)
        (fun _ a => a.congr Iff.rfl rfl rfl rfl rfl) h2)
    · exact h2

theorem pr_flush {w0 w : World} (sid : Nat) (h : Pres w0 w) : Pres w0 (flush w sid) := pr_flushF _ _ h
theorem pr_closeTransport {w0 w : World} (sid : Nat) (d : Bool) (h : Pres w0 w) : Pres w0 (closeTransport w sid d) :=
  pr_closeTransportF _ _ _ h

theorem pr_sendPacket {w0 w : World} (sid : Nat) (p : Pkt) (cb : Option Nat) (h : Pres w0 w) :
    Pres w0 (sendPacket w sid p cb) := by
  unfold sendPacket
  refine ite_ind (fun _ => h) fun hg => pr_flush _ ?_
  have hnc : (w.sock sid).rs ≠ .closed := fun hc => hg (Or.inr (Or.inl hc))
  have hsz : sid < w.socks.size := Nat.lt_of_not_le (fun hle => hg (Or.inr (Or.inr hle)))
  refine pr_sv ?_ (sameView_sev_setSock w sid (.packetCreate p cb) _)
  refine pr_accStep1 sid _ _ rfl hnc hsz rfl rfl rfl (fun o => ⟨o.cb, o.dc, o.cu⟩) rfl ?_ (by simp [fFlushedCb, fRanCb]) rfl nofun h
  cases cb <;> simp [fCreatedCb, fFlushedCb]

theorem SameView.quiet {w w' : World} (v : SameView w w') : Quiet w w' :=
  ⟨v.size, v.registry, fun j => (v.sock j).rs, fun j => (v.sock j).announced, fun j => (v.sock j).drainClose⟩

theorem pr_sockOnDrain {w0 w : World} (sid : Nat) (h : Pres w0 w) : Pres w0 (sockOnDrain w sid) := by
  refine h.trans fun i => ?_
  unfold sockOnDrain
  split
  · exact Pres.refl _ i
  · rename_i cbs rest hs
    have hnc : (w.sock sid).rs ≠ .closed := fun hc => by
      have := (i.sockOK sid).cb hc
      rw [hs] at this; cases this
    have hsz : sid < w.socks.size := Nat.lt_of_not_le fun hle => by rw [sock_oob w sid hle] at hs; cases hs
    have hfold : cbs.foldl (fun w id => w.sev sid (.cb id)) (w.setSock sid fun s => { s with sentCb := rest }) =
        (cbs.map SEv.cb).foldl (fun w e => w.sev sid e) (w.setSock sid fun s => { s with sentCb := rest }) := List.foldl_map.symm
    rw [hfold]
    -- when the callbacks `c` of the group have run, `q` is queued
    have hq : ∀ c q, cbs ++ rest.flatten = c ++ q.flatten → AccS (w.sock sid) sid w.slog →
        AccS { w.sock sid with sentCb := q } sid (w.slog ++ entries sid (c.map .cb)) :=
      fun c q e a => a.ran c q hnc (by rw [hs]; exact e)
    refine pres_accSteps w sid (cbs.map .cb) _ (fun e he => ?_) hnc hsz rfl rfl rfl (fun o => ⟨fun hc => absurd hc hnc, o.dc, o.cu⟩)
      (hq cbs rest rfl) (fun a k => ?_) (fun _ k b c hk => ?_) i
    · obtain ⟨id, _, rfl⟩ := List.mem_map.mp he; rfl
    · rw [← List.map_take]
      exact (hq _ (cbs.drop k :: rest) (by rw [List.flatten_cons, ← List.append_assoc, List.take_append_drop]) a).histAt
    · obtain ⟨id, _, e⟩ := List.mem_map.mp (List.mem_of_getElem? hk); cases e

theorem pr_trEmitDrain {w0 w : World} (ti : Nat) (h : Pres w0 w) : Pres w0 (trEmitDrain w ti) := by
  unfold trEmitDrain
  dsimp only
  split
  · split
    · exact pr_wsCloseNow _ (pr_sockOnDrain _ h)
    · exact pr_sockOnDrain _ h
  · split
    · exact pr_wsCloseNow _ h
    · exact h

theorem pr_trEmitReady {w0 w : World} (ti : Nat) (h : Pres w0 w) : Pres w0 (trEmitReady w ti) := by
  unfold trEmitReady
  split
  · exact pr_flush _ h
  · exact h

theorem candCleanup_sock (w : World) (sid : Nat) (c : Cand) (hc : (w.sock sid).cand = some c) (hsz : sid < w.socks.size) :
    (candCleanup w sid).sock sid = { (w.sock sid) with upgrading := false, cand := none } := by
  unfold candCleanup
  simp only [hc]
  rw [sock_setTr, sock_setSock]; simp [hsz]

theorem pr_doUpgrade {w0 w : World} (sid : Nat) (newTr : Nat) (hnc : ¬ closedW w sid) (c : Cand)
    (hc : (w.sock sid).cand = some c) (h : Pres w0 w) : Pres w0 (doUpgrade w sid newTr) := by
  refine h.trans fun i => ?_
  have hup : (w.sock sid).upgraded = false := (i.sockOK sid).cu (by rw [hc]; rfl)
  have hsz : sid < w.socks.size := Nat.lt_of_not_le fun hle => by rw [sock_oob w sid hle] at hc; cases hc
  suffices p : Pres w (doUpgrade w sid newTr) from p i
  unfold doUpgrade; dsimp only
  -- up to the switch of the flag nothing the invariant reads changes
  generalize ha : World.setTr (candCleanup w sid) _ _ = wa
  have va : SameView w wa := ha ▸ (candCleanup_sameView w sid).trans (sameView_setTr _ _ _)
  have sa : wa.sock sid = { (w.sock sid) with upgrading := false, cand := none } := by
    rw [← ha, sock_setTr]; exact candCleanup_sock w sid c hc hsz
  -- the flag and the entry
  have pb : Pres w ((wa.setSock sid fun s => { s with upgraded := true }).sev sid .upgrade) := by
    refine pr_accStep1 sid _ _ rfl (fun hcl => hnc ((va.closedW sid).mp hcl)) (va.size ▸ hsz) rfl rfl rfl
      (fun o => ⟨o.cb, o.dc, fun hd => by rw [sa] at hd; cases hd⟩) (List.append_nil _) (List.append_nil _)
      (List.append_nil _) ?_ nofun (pr_sv (Pres.refl w) va)
    rw [sa]; dsimp only; rw [hup]; rfl
  -- the rest of the switch touches nothing the invariant reads
  generalize hf : flush _ sid = wf
  have core : Pres w wf := by
    subst wf
    refine pr_flush _ (pr_sv pb (sameView_sev_congr ?_ sid .upgrade))
    -- (the `SockSame` literal last: elaborated before the update is known, its `rfl`s are very slow)
    refine SameView.trans (SameView.trans (clearTransportF_sameView _ _ sid) (sameView_setSock _ _ _ ?_)) (sameView_setTr _ _ _)
    exact ⟨rfl, rfl, rfl, rfl, rfl, rfl, rfl, rfl, id⟩
  exact ite_ind (fun _ => pr_trClose _ _ core) fun _ => core

theorem pr_candOnPacket {w0 w : World} (sid : Nat) (p : Pkt) (h : Pres w0 w) : Pres w0 (candOnPacket w sid p) := by
  unfold candOnPacket
  split
  · exact h
  · rename_i c hc
    refine ite_ind (fun _ => ?_) fun _ =>
      ite_ind (fun hu => pr_doUpgrade _ _ hu.2 c hc h) fun _ => pr_trClose _ _ (pr_candCleanup _ h)
    -- the probe: `upgrading` is the one event that may follow the close event
    exact pr_sv ((pr_trSend _ _ h).trans (pres_sev _ sid .upgrading nofun rfl rfl))
      (sameView_setSock _ _ _ (.setCand _ _ (by rw [sock_sev, sock_trSend, hc]; rfl)))

theorem pr_sockOnPacket {w0 w : World} (sid : Nat) (p : Pkt) (h : Pres w0 w) : Pres w0 (sockOnPacket w sid p) := by
  refine h.trans fun i => ?_
  suffices q : Pres w (sockOnPacket w sid p) from q i
  unfold sockOnPacket
  refine ite_ind (fun _ => Pres.refl _) fun hopen => ?_
  have hopen : (w.sock sid).rs = .open_ := Classical.not_not.mp hopen
  have hnc : (w.sock sid).rs ≠ .closed := by rw [hopen]; nofun
  -- an open session is not waiting for a drain to close, so answering a ping does not close it
  have hdc : (w.sock sid).drainClose = none := by
    cases hd : (w.sock sid).drainClose with
    | none => rfl
    | some d =>
      have := (i.sockOK sid).dc (by rw [hd]; rfl)
      rw [hopen] at this; rcases this with x | x <;> cases x
  have p1 : Pres w (w.sev sid (.packet p.typ)) := pr_sev _ _ hnc rfl rfl (Pres.refl _)
  dsimp only
  split
  · refine ite_ind (fun _ => pr_sockOnClose _ _ _ p1) fun _ => ?_
    refine pr_sev _ _ ?_ rfl rfl (pr_sendPacket _ _ _ (pr_setSockSame _ _ p1))
    rw [closedW, (sendPacket_quiet _ _ _ _ (by simp [hdc])).rs]; simp [hopen]
  · refine ite_ind (fun _ => pr_sockOnClose _ _ _ p1) fun _ => pr_sev _ _ ?_ rfl rfl (pr_setSockSame _ _ p1)
    simp [closedW, hopen]
  · exact pr_sockOnClose _ _ _ p1
  · exact pr_sev _ _ (by simpa [closedW] using hnc) rfl rfl p1
  · exact p1

theorem pr_trEmitPacket {w0 w : World} (ti : Nat) (p : Pkt) (h : Pres w0 w) : Pres w0 (trEmitPacket w ti p) := by
  unfold trEmitPacket
  split
  · exact pr_sockOnPacket _ _ h
  · exact pr_candOnPacket _ _ h
  · exact h

end EIO.Ses
