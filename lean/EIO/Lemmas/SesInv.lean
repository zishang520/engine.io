import EIO.Lemmas.Detached
import EIO.Lemmas.Acc
/-
The invariant of the session model and the step relation every function of the model satisfies.

`Inv w`   what holds of every reachable world (at the boundaries of the model's functions)
`Ext w w'` how a later world relates to an earlier one
`Pres w w' := Inv w → Inv w' ∧ Ext w w'`

The invariant is a conjunction over sessions, apart from the order of the log and of the registry. A step changes one
session and logs entries of it, so `Pres` is shown one session at a time (`inv_step`): every other session keeps what
the invariant says of it. The instances are the steps the invariant does not see at all (`SameView`), an event that
enters no account (`pres_sev`), an update of a record (`pr_setSock`), a new record (`pres_pushSock`) and its registration
(`pres_register`); `socket.OnClose` and the steps that enter the accounts follow in `SesStep` and `SesAcc`.
-/
namespace EIO.Ses
open EIO EIO.Codec

def closedW (w : World) (sid : Nat) : Prop := (w.sock sid).rs = .closed

structure SockOK (s : Sock) : Prop where
  cb : s.rs = .closed → s.sentCb = []
  dc : s.drainClose.isSome → s.rs = .closing ∨ s.rs = .closed
  cu : s.cand.isSome → s.upgraded = false

/-- the accounts of one session: everything accepted is handed over or still buffered (unless the
    session closed, which drops the rest), callbacks likewise, one `upgrade` entry iff upgraded -/
structure AccS (s : Sock) (sid : Nat) (l : List (Nat × SEv)) : Prop where
  pk : ∃ rest, createdPkts sid l = flushedPkts sid l ++ rest ∧ (s.rs ≠ .closed → rest = s.wbuf)
  cb : ∃ rest, createdCbs sid l = flushedCbs sid l ++ rest ∧ (s.rs ≠ .closed → rest = s.packetsFn)
  run : ∃ rest, flushedCbs sid l = ranCbs sid l ++ rest ∧ (s.rs ≠ .closed → rest = s.sentCb.flatten)
  up : upgradeCount sid l = (if s.upgraded then 1 else 0)

structure AccInv (w : World) : Prop where
  ses : ∀ sid, AccS (w.sock sid) sid w.slog
  fresh : ∀ e ∈ w.slog, e.2.accNeutral = false → e.1 < w.socks.size
  hist : LogHist w.slog
  tight : FlushTight w.slog

structure Inv (w : World) : Prop where
  logOK : LogOK w.slog
  logClosed : ∀ sid, closeIn sid w.slog → closedW w sid
  closedLog : ∀ sid, closedW w sid → closeIn sid w.slog
  sockOK : ∀ sid, SockOK (w.sock sid)
  regLive : ∀ sid ∈ w.registry, ¬ closedW w sid ∧ sid < w.socks.size ∧ (w.sock sid).announced = true
  regNodup : w.registry.Nodup
  annReg : ∀ sid, (w.sock sid).announced = true → sid ∈ w.registry ∨ closedW w sid
  acc : AccInv w
  regOpen : ∀ sid ∈ w.registry, (w.sock sid).rs ≠ .opening

structure Ext (w w' : World) : Prop where
  rank : ∀ sid, (w.sock sid).rs.rank ≤ (w'.sock sid).rs.rank
  log : ∃ added, w'.slog = w.slog ++ added
  reqs : ReqsExt w w'
  size : w.socks.size ≤ w'.socks.size
  proto : ∀ sid, sid < w.socks.size → (w'.sock sid).proto = (w.sock sid).proto
  ann : ∀ sid, (w.sock sid).announced = true → (w'.sock sid).announced = true
  reg : ∀ sid ∈ w'.registry, sid ∈ w.registry ∨ (w.sock sid).announced = false

def Pres (w w' : World) : Prop := Inv w → Inv w' ∧ Ext w w'

theorem Inv.log {w : World} (i : Inv w) : LogInv w.socks.size w.slog := ⟨i.logOK, i.acc.fresh, i.acc.hist, i.acc.tight⟩

theorem Ext.refl (w : World) : Ext w w :=
  ⟨fun _ => Nat.le_refl _, ⟨[], by simp⟩, ReqsExt.refl w, Nat.le_refl _, fun _ _ => rfl, fun _ h => h, fun _ h => Or.inl h⟩

theorem Ext.trans {a b c : World} (h1 : Ext a b) (h2 : Ext b c) : Ext a c := by
  refine ⟨fun sid => Nat.le_trans (h1.rank sid) (h2.rank sid), ?_, h1.reqs.trans h2.reqs, Nat.le_trans h1.size h2.size, ?_,
    fun sid h => h2.ann sid (h1.ann sid h), ?_⟩
  · obtain ⟨x, hx⟩ := h1.log
    obtain ⟨y, hy⟩ := h2.log
    exact ⟨x ++ y, by rw [hy, hx, List.append_assoc]⟩
  · intro sid hs
    rw [h2.proto sid (Nat.lt_of_lt_of_le hs h1.size), h1.proto sid hs]
  · intro sid hs
    rcases h2.reg sid hs with h | h
    · exact h1.reg sid h
    · refine Or.inr ?_
      cases ha : (a.sock sid).announced with
      | false => rfl
      | true => rw [h1.ann sid ha] at h; cases h

theorem Pres.refl (w : World) : Pres w w := fun h => ⟨h, Ext.refl w⟩
theorem Pres.trans {a b c : World} (h1 : Pres a b) (h2 : Pres b c) : Pres a c := fun h =>
  let ⟨i1, e1⟩ := h1 h
  let ⟨i2, e2⟩ := h2 i1
  ⟨i2, e1.trans e2⟩

theorem Inv.silent_after_close {w w' : World} (i : Inv w) (i' : Inv w') (sid : Nat) (hc : closedW w sid) :
    ∀ added, w'.slog = w.slog ++ added → ∀ x ∈ added, x.2.final = true → x.1 ≠ sid := by
  intro added hadd x hx hfin hsid
  obtain ⟨a, b, hab⟩ := List.append_of_mem hx
  refine i'.logOK (w.slog ++ a) x b (by rw [hadd, hab, List.append_assoc]) hfin ?_
  rw [hsid]; exact (closeIn_append sid w.slog a).mpr (Or.inl (i.closedLog sid hc))


/-- the part of a session the invariant looks at -/
structure SockSame (s s' : Sock) : Prop where
  rs : s'.rs = s.rs
  sentCb : s'.sentCb = s.sentCb
  drainClose : s'.drainClose = s.drainClose
  announced : s'.announced = s.announced
  proto : s'.proto = s.proto
  wbuf : s'.wbuf = s.wbuf
  packetsFn : s'.packetsFn = s.packetsFn
  upgraded : s'.upgraded = s.upgraded
  candm : s'.cand.isSome → s.cand.isSome

theorem SockSame.refl (s : Sock) : SockSame s s := ⟨rfl, rfl, rfl, rfl, rfl, rfl, rfl, rfl, id⟩
theorem SockSame.setCand (s : Sock) (c : Cand) (h : s.cand.isSome) : SockSame s { s with cand := some c } :=
  ⟨rfl, rfl, rfl, rfl, rfl, rfl, rfl, rfl, fun _ => h⟩
theorem SockSame.trans {a b c : Sock} (h1 : SockSame a b) (h2 : SockSame b c) : SockSame a c :=
  ⟨h2.rs.trans h1.rs, h2.sentCb.trans h1.sentCb, h2.drainClose.trans h1.drainClose,
   h2.announced.trans h1.announced, h2.proto.trans h1.proto, h2.wbuf.trans h1.wbuf,
   h2.packetsFn.trans h1.packetsFn, h2.upgraded.trans h1.upgraded, fun h => h1.candm (h2.candm h)⟩

theorem AccS.congr {s s' : Sock} {sid : Nat} {l : List (Nat × SEv)} (h : AccS s sid l)
    (hrs : s'.rs = .closed ↔ s.rs = .closed) (hw : s'.wbuf = s.wbuf) (hp : s'.packetsFn = s.packetsFn)
    (hc : s'.sentCb.flatten = s.sentCb.flatten) (hu : s'.upgraded = s.upgraded) : AccS s' sid l := by
  obtain ⟨r1, e1, i1⟩ := h.pk
  obtain ⟨r2, e2, i2⟩ := h.cb
  obtain ⟨r3, e3, i3⟩ := h.run
  exact ⟨⟨r1, e1, fun hn => by rw [hw]; exact i1 (fun x => hn (hrs.mpr x))⟩,
         ⟨r2, e2, fun hn => by rw [hp]; exact i2 (fun x => hn (hrs.mpr x))⟩,
         ⟨r3, e3, fun hn => by rw [hc]; exact i3 (fun x => hn (hrs.mpr x))⟩,
         by rw [hu]; exact h.up⟩

theorem AccS.same {s s' : Sock} {sid : Nat} {l : List (Nat × SEv)} (h : AccS s sid l) (v : SockSame s s') :
    AccS s' sid l :=
  h.congr (by rw [v.rs]) v.wbuf v.packetsFn (congrArg _ v.sentCb) v.upgraded

/-- a closed session owes nothing: what was buffered or queued is dropped -/
theorem AccS.close {s s' : Sock} {sid : Nat} {l : List (Nat × SEv)} (h : AccS s sid l) (hc : s'.rs = .closed)
    (hu : s'.upgraded = s.upgraded) : AccS s' sid l := by
  obtain ⟨r1, e1, _⟩ := h.pk
  obtain ⟨r2, e2, _⟩ := h.cb
  obtain ⟨r3, e3, _⟩ := h.run
  exact ⟨⟨r1, e1, fun n => absurd hc n⟩, ⟨r2, e2, fun n => absurd hc n⟩, ⟨r3, e3, fun n => absurd hc n⟩, hu ▸ h.up⟩

theorem AccS.append_neutral {s : Sock} {sid : Nat} {l : List (Nat × SEv)} (h : AccS s sid l) (added : List (Nat × SEv))
    (hn : NeutralFor sid added) : AccS s sid (l ++ added) := by
  obtain ⟨a, b, c, d, e', f⟩ := proj_append_neutral sid l added hn
  obtain ⟨r1, e1, i1⟩ := h.pk
  obtain ⟨r2, e2, i2⟩ := h.cb
  obtain ⟨r3, e3, i3⟩ := h.run
  exact ⟨⟨r1, by rw [a, c]; exact e1, i1⟩, ⟨r2, by rw [b, d]; exact e2, i2⟩, ⟨r3, by rw [d, e']; exact e3, i3⟩,
         by rw [f]; exact h.up⟩

theorem AccS.histAt {s : Sock} {sid : Nat} {l : List (Nat × SEv)} (h : AccS s sid l) : HistAt sid l := by
  obtain ⟨r1, e1, _⟩ := h.pk
  obtain ⟨r2, e2, _⟩ := h.cb
  obtain ⟨r3, e3, _⟩ := h.run
  refine ⟨⟨r1, e1.symm⟩, ⟨r2, e2.symm⟩, ⟨r3, e3.symm⟩, ?_⟩
  rw [h.up]; split <;> omega


/-- what the invariant says of session `sid`, given the log, the registry and the number of sessions -/
structure SesInv (l : List (Nat × SEv)) (reg : List Nat) (n sid : Nat) (s : Sock) : Prop where
  logClosed : closeIn sid l → s.rs = .closed
  closedLog : s.rs = .closed → closeIn sid l
  ok : SockOK s
  regLive : sid ∈ reg → s.rs ≠ .closed ∧ sid < n ∧ s.announced = true ∧ s.rs ≠ .opening
  annReg : s.announced = true → sid ∈ reg ∨ s.rs = .closed
  acc : AccS s sid l

/-- what `Ext` says of session `sid` -/
structure SesExt (reg reg' : List Nat) (n sid : Nat) (s s' : Sock) : Prop where
  rank : s.rs.rank ≤ s'.rs.rank
  proto : sid < n → s'.proto = s.proto
  ann : s.announced = true → s'.announced = true
  reg : sid ∈ reg' → sid ∈ reg ∨ s.announced = false

theorem Inv.ses {w : World} (i : Inv w) (sid : Nat) : SesInv w.slog w.registry w.socks.size sid (w.sock sid) :=
  ⟨i.logClosed sid, i.closedLog sid, i.sockOK sid,
   fun h => ⟨(i.regLive sid h).1, (i.regLive sid h).2.1, (i.regLive sid h).2.2, i.regOpen sid h⟩, i.annReg sid, i.acc.ses sid⟩

theorem SockOK.same {s s' : Sock} (o : SockOK s) (v : SockSame s s') : SockOK s' :=
  ⟨fun hc => v.sentCb ▸ o.cb (v.rs ▸ hc), fun hd => v.rs ▸ o.dc (v.drainClose ▸ hd), fun hd => v.upgraded ▸ o.cu (v.candm hd)⟩

theorem SesInv.same {l : List (Nat × SEv)} {reg reg' : List Nat} {n n' j : Nat} {s s' : Sock} (h : SesInv l reg n j s)
    (v : SockSame s s') (hreg : j ∈ reg' → j ∈ reg) (hreg' : j ∈ reg → j ∈ reg') (hn : n ≤ n') : SesInv l reg' n' j s' := by
  refine ⟨fun hc => v.rs ▸ h.logClosed hc, fun hc => h.closedLog (v.rs ▸ hc), h.ok.same v, fun hm => ?_, fun ha => ?_, h.acc.same v⟩
  · obtain ⟨a, b, c, d⟩ := h.regLive (hreg hm)
    exact ⟨v.rs ▸ a, Nat.lt_of_lt_of_le b hn, v.announced ▸ c, v.rs ▸ d⟩
  · rw [v.rs]; exact (h.annReg (v.announced ▸ ha)).imp hreg' id

theorem SesInv.append {l : List (Nat × SEv)} {reg : List Nat} {n j : Nat} {s : Sock} (h : SesInv l reg n j s)
    (added : List (Nat × SEv)) (hc : ∀ x ∈ added, x.1 = j → x.2.isClose = false)
    (hn : NeutralFor j added) : SesInv (l ++ added) reg n j s :=
  ⟨fun c => h.logClosed ((closeIn_append_noclose hc l).mp c), fun c => (closeIn_append_noclose hc l).mpr (h.closedLog c),
   h.ok, h.regLive, h.annReg, h.acc.append_neutral added hn⟩

theorem SesExt.other {reg reg' : List Nat} {n j : Nat} {s s' : Sock} (v : SockSame s s') (hreg : j ∈ reg' → j ∈ reg) :
    SesExt reg reg' n j s s' :=
  ⟨v.rs ▸ Nat.le_refl _, fun _ => v.proto, fun h => v.announced ▸ h, fun h => Or.inl (hreg h)⟩

/-- A step that changes session `sid` and logs the entries `es` of it: every other session as it was (up to
    `SockSame`) and in the registry iff it was, no session lost. It keeps the invariant if the new log and the new
    registry are in order and the invariant holds of `sid` itself. -/
theorem inv_step {w w' : World} (i : Inv w) (sid : Nat) (es : List SEv)
    (hlog : w'.slog = w.slog ++ entries sid es)
    (other : ∀ j, j ≠ sid → SockSame (w.sock j) (w'.sock j))
    (size : w.socks.size ≤ w'.socks.size)
    (reg : ∀ j, j ≠ sid → (j ∈ w'.registry ↔ j ∈ w.registry))
    (reqs : ReqsExt w w')
    (log : LogInv w'.socks.size w'.slog) (nodup : w'.registry.Nodup)
    (hsid : SesInv w'.slog w'.registry w'.socks.size sid (w'.sock sid))
    (hext : SesExt w.registry w'.registry w.socks.size sid (w.sock sid) (w'.sock sid)) :
    Inv w' ∧ Ext w w' := by
  have hs : ∀ j, SesInv w'.slog w'.registry w'.socks.size j (w'.sock j) := fun j => by
    by_cases hj : j = sid
    · exact hj ▸ hsid
    · rw [hlog]
      exact ((i.ses j).same (other j hj) (reg j hj).mp (reg j hj).mpr size).append _
        (fun _ hx h => absurd ((fst_of_mem_entries hx).symm.trans h) (Ne.symm hj)) (neutral_other (Ne.symm hj) es)
  have he : ∀ j, SesExt w.registry w'.registry w.socks.size j (w.sock j) (w'.sock j) := fun j => by
    by_cases hj : j = sid
    · exact hj ▸ hext
    · exact .other (other j hj) (reg j hj).mp
  exact ⟨⟨log.ok, fun j => (hs j).logClosed, fun j => (hs j).closedLog, fun j => (hs j).ok,
    fun j hm => ⟨((hs j).regLive hm).1, ((hs j).regLive hm).2.1, ((hs j).regLive hm).2.2.1⟩, nodup, fun j => (hs j).annReg,
    ⟨fun j => (hs j).acc, log.fresh, log.hist, log.tight⟩, fun j hm => ((hs j).regLive hm).2.2.2⟩,
    ⟨fun j => (he j).rank, ⟨_, hlog⟩, reqs, size, fun j => (he j).proto, fun j => (he j).ann, fun j => (he j).reg⟩⟩


/-- nothing the invariant looks at has changed, requests may have been added or answered -/
structure SameView (w w' : World) : Prop where
  size : w'.socks.size = w.socks.size
  sock : ∀ j, SockSame (w.sock j) (w'.sock j)
  slog : w'.slog = w.slog
  registry : w'.registry = w.registry
  reqs : ReqsExt w w'

/-- the world-level part of `SameView` alone (sessions may differ) -/
structure SameView' (w w' : World) : Prop where
  size : w'.socks.size = w.socks.size
  slog : w'.slog = w.slog
  registry : w'.registry = w.registry
  reqs : ReqsExt w w'

theorem SameView.refl (w : World) : SameView w w := ⟨rfl, fun _ => SockSame.refl _, rfl, rfl, ReqsExt.refl w⟩
theorem SameView.trans {a b c : World} (h1 : SameView a b) (h2 : SameView b c) : SameView a c :=
  ⟨h2.size.trans h1.size, fun j => (h1.sock j).trans (h2.sock j), h2.slog.trans h1.slog,
   h2.registry.trans h1.registry, h1.reqs.trans h2.reqs⟩

theorem SameView.closedW {w w' : World} (h : SameView w w') (sid : Nat) : closedW w' sid ↔ closedW w sid := by
  unfold EIO.Ses.closedW; rw [(h.sock sid).rs]

theorem SameView.pres {w w' : World} (h : SameView w w') : Pres w w' := by
  intro i
  have hsz := h.size; have hlg := h.slog; have hrg := h.registry
  -- no session changes: any will do as the one that may
  refine inv_step i 0 [] (hlg.trans (List.append_nil _).symm) (fun j _ => h.sock j) (Nat.le_of_eq hsz.symm)
    (fun j _ => by rw [hrg]) h.reqs ?_ ?_ ?_ (.other (h.sock 0) (by rw [hrg]; exact id))
  · rw [hlg, hsz]; exact i.log
  · rw [hrg]; exact i.regNodup
  · rw [hlg, hrg, hsz]; exact (i.ses 0).same (h.sock 0) id id (Nat.le_refl _)

theorem Detached.sameView {ti : Nat} {w w' : World} (d : Detached ti w w') : SameView w w' :=
  ⟨by rw [d.socks], fun j => by unfold World.sock; rw [d.socks]; exact SockSame.refl _, d.slog, d.registry, d.reqs⟩

theorem sameView_setSock (w : World) (sid : Nat) (f : Sock → Sock) (hf : SockSame (w.sock sid) (f (w.sock sid))) :
    SameView w (w.setSock sid f) := by
  refine ⟨by simp, ?_, rfl, rfl, ReqsExt.refl _⟩
  intro j
  rw [sock_setSock]
  split
  · rename_i hc; rw [← hc.1]; exact hf
  · exact SockSame.refl _

theorem sameView_fields (w w' : World) (h1 : w'.socks = w.socks) (h2 : w'.slog = w.slog)
    (h3 : w'.registry = w.registry) (h4 : w'.reqs = w.reqs) : SameView w w' := by
  refine ⟨by rw [h1], fun j => ?_, h2, h3, ⟨by rw [h4]; exact Nat.le_refl _, fun r x hx => by rw [h4]; exact hx⟩⟩
  have : w'.sock j = w.sock j := by unfold World.sock; rw [h1]
  rw [this]; exact SockSame.refl _

theorem sameView_setTr (w : World) (i : Nat) (f : Tr → Tr) : SameView w (w.setTr i f) := sameView_fields _ _ rfl rfl rfl rfl
theorem sameView_ev (w : World) (s : String) : SameView w (w.ev s) := sameView_fields _ _ rfl rfl rfl rfl
theorem sv_ev {w0 w : World} (s : String) (h : SameView w0 w) : SameView w0 (w.ev s) := h.trans (sameView_ev _ _)

theorem sameView_setReq (w : World) (r : Nat) (f : Req → Req)
    (hf : ∀ x, (w.reqs.getD r default).resp = some x → (f (w.reqs.getD r default)).resp = some x) :
    SameView w (w.setReq r f) := by
  refine ⟨rfl, fun _ => SockSame.refl _, rfl, rfl, ⟨by unfold World.setReq; simp, ?_⟩⟩
  intro r' x hx
  rw [req_setReq]
  split
  · rename_i hc; rw [← hc.1] at hx ⊢; exact hf x hx
  · exact hx

theorem sameView_pushReq (w : World) (q : Req) : SameView w { w with reqs := w.reqs.push q } := by
  refine ⟨rfl, fun _ => SockSame.refl _, rfl, rfl, ⟨by simp, ?_⟩⟩
  intro r x hx
  have hr : r < w.reqs.size := by
    by_cases h : r < w.reqs.size
    · exact h
    · rw [getD_oob _ _ _ (Nat.le_of_not_lt h)] at hx
      exact absurd hx (by simp [default, instInhabitedReq.default])
  show ((w.reqs.push q).getD r default).resp = some x
  rw [getD_push_lt _ _ _ _ hr]; exact hx

theorem sameView_answer (w : World) (r : Nat) (resp : Resp) : SameView w (w.answer r resp) := by
  unfold World.answer
  refine ite_ind (fun _ => .refl w) fun hn => (sameView_ev w _).trans (sameView_setReq _ _ _ fun x hx => ?_)
  exact absurd (by rw [show (w.reqs.getD r default).resp = some x from hx]; rfl) hn

theorem sameView_trSend (w : World) (ti : Nat) (batch : List Pkt) : SameView w (trSend w ti batch) :=
  (sameView_setTr w ti fun t => { t with writable := false }).trans (sameView_fields _ _ rfl rfl rfl rfl)


theorem sameView_sev_congr {a b : World} (v : SameView a b) (sid : Nat) (e : SEv) : SameView (a.sev sid e) (b.sev sid e) := by
  refine ⟨by rw [socks_sev, socks_sev]; exact v.size, fun j => by rw [sock_sev, sock_sev]; exact v.sock j,
    by rw [slog_sev, slog_sev, v.slog], by rw [registry_sev, registry_sev]; exact v.registry, ?_⟩
  unfold ReqsExt; rw [reqs_sev, reqs_sev]; exact v.reqs

theorem sameView_registry_congr {a b : World} (v : SameView a b) (f : List Nat → List Nat) :
    SameView { a with registry := f a.registry } { b with registry := f b.registry } :=
  ⟨v.size, v.sock, v.slog, congrArg f v.registry, v.reqs⟩

theorem sameView_setSock_congr {a b : World} {sid : Nat} {g : Sock → Sock} (v : SameView a b)
    (hg : ∀ s s', SockSame s s' → SockSame (g s) (g s')) : SameView (a.setSock sid g) (b.setSock sid g) := by
  refine ⟨by rw [socks_size_setSock, socks_size_setSock]; exact v.size, fun j => ?_, v.slog, v.registry, v.reqs⟩
  rw [sock_setSock, sock_setSock, v.size]
  by_cases hc : sid = j ∧ sid < a.socks.size
  · rw [if_pos hc, if_pos hc]; exact hg _ _ (v.sock j)
  · rw [if_neg hc, if_neg hc]; exact v.sock j

theorem sameView_sev_setSock (w : World) (sid : Nat) (e : SEv) (f : Sock → Sock) :
    SameView ((w.setSock sid f).sev sid e) ((w.sev sid e).setSock sid f) := by
  apply sameView_fields
  · show ((w.sev sid e).socks.modify sid f) = ((w.setSock sid f).sev sid e).socks
    rw [socks_sev, socks_sev]; rfl
  · rw [slog_setSock, slog_sev, slog_sev, slog_setSock]
  · rw [registry_setSock, registry_sev, registry_sev, registry_setSock]
  · rw [reqs_setSock, reqs_sev, reqs_sev, reqs_setSock]


theorem pres_sev (w : World) (sid : Nat) (e : SEv) (hnc : e.final = true → ¬ closedW w sid) (he : e.isClose = false)
    (hn : e.accNeutral = true) : Pres w (w.sev sid e) := by
  intro i
  have hl := slog_sev w sid e
  refine inv_step i sid [e] hl (fun j _ => by rw [sock_sev]; exact SockSame.refl _) (Nat.le_of_eq (by rw [socks_sev]))
    (fun j _ => by rw [registry_sev]) ⟨Nat.le_of_eq (by rw [reqs_sev]), fun r x hx => by rw [reqs_sev]; exact hx⟩ ?_ ?_ ?_ ?_
  · rw [hl, socks_sev]; exact i.log.snoc_neutral sid e hn fun hf hc => hnc hf (i.logClosed sid hc)
  · rw [registry_sev]; exact i.regNodup
  · rw [hl, registry_sev, socks_sev, sock_sev]
    exact (i.ses sid).append _ (fun x hx _ => by cases List.mem_singleton.mp hx; exact he) (neutral_single hn sid sid)
  · rw [sock_sev, registry_sev]; exact .other (SockSame.refl _) id

theorem rank_opening {a b : RS} (h : a.rank ≤ b.rank) (ha : a ≠ .opening) : b ≠ .opening := by
  rintro rfl; cases a <;> first | exact ha rfl | exact absurd h (by decide)

theorem pr_setSock {w0 w : World} (sid : Nat) (f : Sock → Sock)
    (hrank : (w.sock sid).rs.rank ≤ (f (w.sock sid)).rs.rank)
    (hcl : (f (w.sock sid)).rs = .closed ↔ (w.sock sid).rs = .closed)
    (hann : ∀ s, (f s).announced = s.announced) (hproto : ∀ s, (f s).proto = s.proto)
    (hok : sid < w.socks.size → SockOK (w.sock sid) → SockOK (f (w.sock sid)))
    (hacc : sid < w.socks.size → AccS (w.sock sid) sid w.slog → AccS (f (w.sock sid)) sid w.slog)
    (h : Pres w0 w) : Pres w0 (w.setSock sid f) := by
  refine h.trans fun i => ?_
  have hz := socks_size_setSock w sid f
  refine inv_step i sid [] (List.append_nil _).symm
    (fun j hj => by rw [sock_setSock_other _ _ _ _ hj]; exact SockSame.refl _) (Nat.le_of_eq hz.symm)
    (fun _ _ => Iff.rfl) (ReqsExt.refl w) (hz ▸ i.log) i.regNodup ?_ ?_
  all_goals rw [sock_setSock]; split
  · rename_i hc
    have h := i.ses sid
    refine ⟨fun x => hcl.mpr (h.logClosed x), fun x => h.closedLog (hcl.mp x), hok hc.2 h.ok, fun hm => ?_,
      fun ha => (h.annReg ((hann _).symm.trans ha)).imp id hcl.mpr, hacc hc.2 h.acc⟩
    obtain ⟨a, b, c, d⟩ := h.regLive hm
    exact ⟨fun x => a (hcl.mp x), hz ▸ b, (hann _).trans c, rank_opening hrank d⟩
  · exact (i.ses sid).same (SockSame.refl _) id id (Nat.le_of_eq hz.symm)
  · exact ⟨hrank, fun _ => hproto _, fun h => (hann _).trans h, Or.inl⟩
  · exact .other (SockSame.refl _) id

/-- nothing of a session that does not exist yet has entered the accounts -/
theorem AccInv.fresh_accS {w : World} (a : AccInv w) (s0 : Sock) (hwb : s0.wbuf = []) (hpf : s0.packetsFn = [])
    (hsc : s0.sentCb = []) (hup : s0.upgraded = false) : AccS s0 w.socks.size w.slog := by
  obtain ⟨e1, e2, e3, e4, e5, e6⟩ := proj_append_neutral w.socks.size [] w.slog fun e he hn => Nat.ne_of_lt (a.fresh e he hn)
  rw [List.nil_append] at e1 e2 e3 e4 e5 e6
  exact ⟨⟨[], by rw [e1, e3]; rfl, fun _ => hwb.symm⟩, ⟨[], by rw [e2, e4]; rfl, fun _ => hpf.symm⟩,
    ⟨[], by rw [e4, e5]; rfl, fun _ => by rw [hsc]; rfl⟩, by rw [e6, hup]; rfl⟩

theorem pres_pushSock (w : World) (s0 : Sock) (hrs : s0.rs = .opening) (hann : s0.announced = false)
    (hdc : s0.drainClose = none) (hwb : s0.wbuf = []) (hpf : s0.packetsFn = []) (hsc : s0.sentCb = [])
    (hup : s0.upgraded = false) (hcand : s0.cand = none) : Pres w { w with socks := w.socks.push s0 } := by
  intro i
  have hd : w.sock w.socks.size = default := sock_oob w _ (Nat.le_refl _)
  have hnew : ({ w with socks := w.socks.push s0 } : World).sock w.socks.size = s0 := by rw [sock_push rfl, if_pos rfl]
  have hnr : w.socks.size ∉ w.registry := fun hm => Nat.lt_irrefl _ (i.regLive _ hm).2.1
  refine inv_step i w.socks.size [] (List.append_nil _).symm (fun j hj => ?_) (by simp) (fun _ _ => Iff.rfl) (ReqsExt.refl w)
    (i.log.mono (by simp)) i.regNodup ?_ ?_
  · rw [sock_push (w' := { w with socks := w.socks.push s0 }) rfl, if_neg hj]; exact SockSame.refl _
  · rw [hnew]
    refine ⟨fun hc => ?_, fun hc => (by rw [hrs] at hc; cases hc), ⟨fun hc => (by rw [hrs] at hc; cases hc),
      fun h => (by rw [hdc] at h; cases h), fun h => (by rw [hcand] at h; cases h)⟩, fun hm => absurd hm hnr,
      fun ha => (by rw [hann] at ha; cases ha), i.acc.fresh_accS s0 hwb hpf hsc hup⟩
    have := i.logClosed _ hc; unfold closedW at this; rw [hd] at this; cases this
  · rw [hnew, hd]
    exact ⟨by rw [hrs]; exact Nat.le_refl _, fun h => absurd h (Nat.lt_irrefl _), nofun, fun hm => absurd hm hnr⟩

theorem pres_register (w : World) (sid : Nat) (hsz : sid < w.socks.size) (hnew : sid ∉ w.registry)
    (hnc : ¬ closedW w sid) (hno : (w.sock sid).rs ≠ .opening) :
    Pres w (({ w with registry := w.registry ++ [sid] } : World).setSock sid fun s => { s with announced := true }) := by
  intro i
  have hz := socks_size_setSock ({ w with registry := w.registry ++ [sid] } : World) sid fun s => { s with announced := true }
  have h := i.ses sid
  refine inv_step i sid [] (List.append_nil _).symm
    (fun j hj => by rw [sock_setSock_other _ _ _ _ hj]; exact SockSame.refl _) (Nat.le_of_eq hz.symm)
    (fun j hj => ?_) (ReqsExt.refl w) (hz ▸ i.log) ?_ ?_ ?_
  · show j ∈ w.registry ++ [sid] ↔ _
    rw [List.mem_append, List.mem_singleton]; exact ⟨fun h => h.elim id fun h => absurd h hj, Or.inl⟩
  · refine List.nodup_append.mpr ⟨i.regNodup, by simp, fun a ha b hb hab => hnew ?_⟩
    rw [← List.mem_singleton.mp hb, ← hab]; exact ha
  all_goals rw [sock_setSock, if_pos ⟨rfl, hsz⟩]
  · exact ⟨h.logClosed, h.closedLog, ⟨h.ok.cb, h.ok.dc, h.ok.cu⟩, fun _ => ⟨hnc, hz ▸ hsz, rfl, hno⟩,
      fun _ => Or.inl (List.mem_append_right _ (List.mem_singleton_self _)), h.acc.congr Iff.rfl rfl rfl rfl rfl⟩
  · refine ⟨Nat.le_refl _, fun _ => rfl, fun _ => rfl, fun _ => ?_⟩
    cases ha : (w.sock sid).announced with
    | false => exact Or.inr rfl
    | true => exact Or.inl ((h.annReg ha).resolve_right hnc)

end EIO.Ses
