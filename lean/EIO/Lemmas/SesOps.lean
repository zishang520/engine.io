import EIO.Lemmas.SesFlush
/-
Responses, writer tasks, entry points, timers: every operation of the model
preserves the invariant (`step_pres`).
-/
namespace EIO.Ses
open EIO EIO.Codec

theorem pr_emitHeaders {w0 w : World} (ti r : Nat) (h : Pres w0 w) : Pres w0 (emitHeaders w ti r) :=
  emitHeaders_ind ti r (fun _ _ h => pr_setReqKeep _ _ (fun _ => rfl) h) (fun _ _ h => pr_ev _ h) h

theorem pr_runPollSend {w0 w : World} (ti : Nat) (batch : List Pkt) (h : Pres w0 w) : Pres w0 (runPollSend w ti batch) := by
  unfold runPollSend; dsimp only
  generalize hw1 : (if (w.tr ti).shouldClose = true then _ else w) = w1
  have h1 : Pres w0 w1 := hw1 ▸ ite_ind (fun _ => pr_pollOnClose _ (pr_runCloseFn _ (pr_setTr _ _ h))) fun _ => h
  split
  · exact pr_trOnError _ h1
  · exact pr_trEmitDrain _ (pr_answer _ _ (pr_emitHeaders _ _ (pr_setTr _ _ h1)))

theorem pr_wsSendLoop {w0 w : World} (ti : Nat) (batch : List Pkt) (h : Pres w0 w) : Pres w0 (wsSendLoop ti batch w) :=
  wsSendLoop_ind ti (fun _ _ h => pr_setConn _ _ h) (fun _ h => pr_trOnError _ h) batch h

theorem pr_runWsSend {w0 w : World} (ti : Nat) (batch : List Pkt) (h : Pres w0 w) : Pres w0 (runWsSend w ti batch) := by
  unfold runWsSend
  exact pr_trEmitReady _ (pr_setTr _ _ (pr_trEmitDrain _ (pr_wsSendLoop _ _ h)))

theorem pr_runTask {w0 w : World} (t : Task) (h : Pres w0 w) : Pres w0 (runTask w t) := by
  cases t with
  | pollSend ti b => rw [runTask]; exact pr_runPollSend _ _ h
  | wsSend ti b => rw [runTask]; exact pr_runWsSend _ _ h

theorem pr_settle {w0 w : World} (fuel : Nat) (h : Pres w0 w) : Pres w0 (settle fuel w) :=
  settle_ind (fun _ _ _ _ h => pr_runTask _ (pr_fields _ h)) fuel h

theorem pr_openPackets {w0 w : World} (sid : Nat) (trName : String) (h : Pres w0 w) : Pres w0 (openPackets w sid trName) := by
  unfold openPackets
  have h1 := pr_sendPacket sid { typ := .open, data := some ⟨.text, jsonOpen w sid trName⟩, compress := true } none h
  dsimp only; split
  · exact pr_sendPacket _ _ _ h1
  · exact h1

theorem pr_openAnnounce {w0 w : World} (sid : Nat) (trName : String) (proto : Nat)
    (hsz : sid < w.socks.size) (hnew : sid ∉ w.registry) (hopen : (w.sock sid).rs = .open_) (h : Pres w0 w) :
    Pres w0 (openAnnounce w sid trName proto) := by
  unfold openAnnounce
  dsimp only
  generalize hw1 : w.setSock sid _ = w1
  have v : SameView w w1 := hw1 ▸ sameView_setSock _ _ _
    (ite_ind (fun _ => ⟨rfl, rfl, rfl, rfl, rfl, rfl, rfl, rfl, id⟩) fun _ => ⟨rfl, rfl, rfl, rfl, rfl, rfl, rfl, rfl, id⟩)
  have hopen1 : (w1.sock sid).rs = .open_ := (v.sock sid).rs.trans hopen
  refine pr_sev _ _ ?_ rfl rfl ((pr_sv h v).trans
    (pres_register w1 sid (v.size ▸ hsz) (v.registry ▸ hnew) (by rw [closedW, hopen1]; nofun) (by rw [hopen1]; nofun)))
  have : ({ w1 with registry := w1.registry ++ [sid] } : World).sock sid = w1.sock sid := rfl
  simp [closedW, this, hopen1]

theorem pr_openSession {w0 w : World} (ti proto : Nat) (h : Pres w0 w) : Pres w0 (openSession w ti proto) := by
  refine h.trans fun i => ?_
  suffices p : Pres w (openSession w ti proto) from p i
  unfold openSession
  dsimp only
  -- the new record with its transport's listeners (named before anything is proved of them: closed terms are slow)
  generalize hB : World.setTr _ ti _ = wB
  have pB : Pres w wB := hB ▸ pr_setTr _ _ (pres_pushSock w { proto, tr := ti } rfl rfl rfl rfl rfl rfl rfl rfl)
  have sB : wB.sock w.socks.size = { proto, tr := ti } := by rw [← hB, sock_setTr, sock_push rfl, if_pos rfl]
  have zB : wB.socks.size = w.socks.size + 1 := by rw [← hB, socks_setTr]; exact Array.size_push ..
  have rB : wB.registry = w.registry := by rw [← hB]; rfl
  -- `onOpen` sets it open
  generalize hC : wB.setSock w.socks.size _ = wC
  have sC : wC.sock w.socks.size = { proto, tr := ti, rs := .open_ } := by
    rw [← hC, sock_setSock_self _ _ _ (zB ▸ Nat.lt_succ_self _), sB]
  have pC : Pres w wC := by
    rw [← hC]
    refine pr_setSock _ _ ?_ ?_ (fun _ => rfl) (fun _ => rfl) (fun _ _ => ?_) (fun _ a => a.congr ?_ rfl rfl rfl rfl) pB
    · rw [sB]; exact Nat.zero_le _
    · rw [sB]; exact ⟨nofun, nofun⟩
    · rw [sB]; exact ⟨nofun, nofun, nofun⟩
    · rw [sB]; exact ⟨nofun, nofun⟩
  have q := openPackets_quiet wC w.socks.size (w.tr ti).name (by rw [sC])
  refine pr_openAnnounce _ _ _ ?_ ?_ ?_ (pr_openPackets _ _ pC)
  · rw [q.size, ← hC, socks_size_setSock, zB]; exact Nat.lt_succ_self _
  · rw [q.registry, ← hC, registry_setSock, rB]; exact fun hm => Nat.lt_irrefl _ (i.regLive _ hm).2.1
  · rw [q.rs, sC]

theorem pr_rejectReq {w0 w : World} (r code : Nat) (msg : String) (h : Pres w0 w) : Pres w0 (rejectReq w r code msg) :=
  pr_answer _ _ (pr_ev _ h)

theorem pr_onPollRequest {w0 w : World} (ti r : Nat) (h : Pres w0 w) : Pres w0 (onPollRequest w ti r) := by
  unfold onPollRequest
  refine ite_ind (fun _ => pr_answer _ _ (pr_trOnError _ h)) fun _ => ?_
  have h1 := pr_trEmitReady ti (pr_setReqKeep r (fun q => { q with pollOf := some ti }) (fun _ => rfl)
    (pr_setTr ti (fun t => { t with req := some r, writable := true }) h))
  exact ite_ind (fun _ => pr_trSend _ _ h1) fun _ => h1

theorem pr_hsPolling {w0 w : World} (proto : Nat) (b64 : Bool) (j : Option Bytes) (h : Pres w0 w) :
    Pres w0 (hsPolling w proto b64 j) := by
  unfold hsPolling
  have h0 : Pres w0 ({ w with reqs := w.reqs.push { hasSid := false } } : World) := pr_pushReq _ h
  dsimp only
  refine ite_ind (fun _ => pr_rejectReq _ _ _ h0) fun _ => ite_ind (fun _ => pr_rejectReq _ _ _ h0) fun _ => ?_
  exact pr_openSession _ _ (pr_onPollRequest _ _ (pr_fields _ h0))

theorem pr_hsWebsocket {w0 w : World} (proto : Nat) (b64 : Bool) (h : Pres w0 w) : Pres w0 (hsWebsocket w proto b64) := by
  unfold hsWebsocket
  have h0 : Pres w0 ({ w with conns := w.conns.push {} } : World) := pr_fields _ h
  dsimp only
  refine ite_ind (fun _ => pr_setConn _ _ h0) fun _ => ite_ind (fun _ => pr_setConn _ _ (pr_ev _ h0)) fun _ => ?_
  exact pr_openSession _ _ (pr_fields _ h0)

theorem pr_hsWt {w0 w : World} (h : Pres w0 w) : Pres w0 (hsWt w) := by
  unfold hsWt
  exact pr_openSession _ _ (pr_fields _ (pr_fields (w := w) { w with conns := w.conns.push { wt := true } } h))

theorem pr_pollReq {w0 w : World} (sid : Nat) (ae : Bytes) (h : Pres w0 w) : Pres w0 (pollReq w sid ae) := by
  unfold pollReq
  have h0 : Pres w0 ({ w with reqs := w.reqs.push { ae } } : World) := pr_pushReq _ h
  dsimp only; split
  · exact pr_rejectReq _ _ _ h0
  · exact ite_ind (fun _ => pr_rejectReq _ _ _ h0) fun _ => pr_onPollRequest _ _ h0

theorem pr_pollDeliver {w0 w : World} (ti : Nat) (pkts : List Pkt) (h : Pres w0 w) : Pres w0 (pollDeliver ti pkts w) :=
  pollDeliver_ind ti pkts (fun _ h => pr_pollOnClose _ h) (fun _ _ _ h => pr_trEmitPacket _ _ h) h

theorem pr_pollOnData {w0 w : World} (ti : Nat) (body : Bytes) (binary : Bool) (h : Pres w0 w) :
    Pres w0 (pollOnData w ti body binary).1 := by
  unfold pollOnData
  split
  · exact pr_pollDeliver _ _ h
  · exact h
  · exact pr_fields _ h

theorem pr_postReq {w0 w : World} (sid : Nat) (binary declared : Bool) (body : Bytes) (viaJsonp : Bool) (h : Pres w0 w) :
    Pres w0 (postReq w sid binary declared body viaJsonp) := by
  unfold postReq
  have h0 : Pres w0 ({ w with reqs := w.reqs.push { isPost := true, consumed := some 0 } } : World) := pr_pushReq _ h
  dsimp only; split
  · exact pr_rejectReq _ _ _ h0
  · refine ite_ind (fun _ => pr_rejectReq _ _ _ h0) fun _ => ?_
    refine ite_ind (fun _ => pr_answer _ _ (pr_trOnError _ h0)) fun _ => ite_ind (fun _ => pr_answer _ _ h0) fun _ => ?_
    have h1 := pr_setReqKeep w.reqs.size (fun q => { q with consumed := some (min body.length (w.o.maxPayload + 1)) }) (fun _ => rfl) h0
    refine ite_ind (fun _ => pr_answer _ _ h1) fun _ => ?_
    refine ite_ind (fun _ => pr_trOnError _ (pr_setReqKeep _ _ (fun _ => rfl) (pr_setTr _ _ ?_))) fun _ =>
      pr_answer _ _ (pr_emitHeaders _ _ (pr_setTr _ _ ?_))
    all_goals
      split
      · exact pr_pollOnData _ _ _ (pr_setTr _ _ h1)
      · exact pr_setTr _ _ h1

theorem pr_abortReq {w0 w : World} (r : Nat) (h : Pres w0 w) : Pres w0 (abortReq w r) := by
  unfold abortReq
  refine ite_ind (fun _ => h) fun _ => ?_
  have h1 := pr_setReqKeep r (fun q => { q with done := true }) (fun _ => rfl) h
  dsimp only; split
  · exact ite_ind (fun _ => pr_trOnError _ (pr_setTr _ _ h1)) fun _ => h1
  · exact h1

theorem pr_setCand {w0 w : World} (sid : Nat) (cd : Cand) (hup : (w.sock sid).upgraded = false) (h : Pres w0 w) :
    Pres w0 (w.setSock sid fun s => { s with upgrading := true, cand := some cd }) :=
  pr_setSock _ _ (Nat.le_refl _) Iff.rfl (fun _ => rfl) (fun _ => rfl) (fun _ o => ⟨o.cb, o.dc, fun _ => hup⟩)
    (fun _ a => a.congr Iff.rfl rfl rfl rfl rfl) h

theorem pr_wsCandidate {w0 w : World} (sid proto : Nat) (b64 : Bool) (h : Pres w0 w) : Pres w0 (wsCandidate w sid proto b64) := by
  unfold wsCandidate
  have h0 : Pres w0 ({ w with conns := w.conns.push {} } : World) := pr_fields _ h
  dsimp only
  refine ite_ind (fun _ => pr_setConn _ _ (pr_setConn _ _ h0)) fun _ => ?_
  split
  · exact pr_setConn _ _ (pr_setConn _ _ (pr_ev _ h0))
  · rename_i s0 hl
    cases (lookup_reg _ _ _ hl).1
    refine ite_ind (fun _ => pr_setConn _ _ h0) fun hg => pr_setCand _ _ ?_ (pr_fields _ h0)
    exact Bool.eq_false_iff.mpr fun hu => hg (Or.inr hu)

theorem pr_wtCandidate {w0 w : World} (sid : Nat) (h : Pres w0 w) : Pres w0 (wtCandidate w sid) := by
  unfold wtCandidate
  have h0 : Pres w0 ({ w with conns := w.conns.push { wt := true } } : World) := pr_fields _ h
  dsimp only; split
  · exact pr_setConn _ _ h0
  · rename_i s0 hl
    cases (lookup_reg _ _ _ hl).1
    refine ite_ind (fun _ => pr_setConn _ _ h0) fun hg => pr_setCand _ _ ?_ (pr_fields _ h0)
    exact Bool.eq_false_iff.mpr fun hu => hg (Or.inr hu)

theorem pr_wsFrame {w0 w : World} (c : Nat) (m : Msg) (h : Pres w0 w) : Pres w0 (wsFrame w c m).1 := by
  rw [wsFrame_fst]
  refine ite_ind (fun _ => h) fun _ => ?_
  split
  · exact h
  · exact ite_ind (fun _ => pr_trOnError _ (pr_setConn _ _ h)) fun _ => pr_trEmitPacket _ _ h

theorem pr_wsDrop {w0 w : World} (c : Nat) (h : Pres w0 w) : Pres w0 (wsDrop w c) := by
  unfold wsDrop
  refine ite_ind (fun _ => pr_setConn _ _ h) fun _ => ?_
  dsimp only; split
  · exact ite_ind (fun _ => pr_trOnError _ (pr_setConn _ _ (pr_setConn _ _ h))) fun _ =>
      pr_trOnCloseBase _ (pr_setConn _ _ (pr_setConn _ _ h))
  · exact pr_setConn _ _ (pr_setConn _ _ h)

theorem pr_appClose {w0 w : World} (sid : Nat) (d : Bool) (h : Pres w0 w) : Pres w0 (appClose w sid d) := by
  unfold appClose
  refine ite_ind (fun _ => pr_closeTransport _ _ h) fun _ => ite_ind (fun _ => h) fun hopen => ?_
  have hopen : (w.sock sid).rs = .open_ := Classical.not_not.mp hopen
  have hcl : (RS.closing = RS.closed ↔ (w.sock sid).rs = .closed) := by rw [hopen]; exact ⟨nofun, nofun⟩
  have p1 : Pres w0 (w.setSock sid fun s => { s with rs := .closing }) :=
    pr_setSock _ _ (hopen ▸ (by decide : RS.open_.rank ≤ RS.closing.rank)) hcl (fun _ => rfl) (fun _ => rfl) (fun _ o => ⟨nofun, fun _ => Or.inl rfl, o.cu⟩)
      (fun _ a => a.congr hcl rfl rfl rfl rfl) h
  refine ite_ind (fun _ => ?_) fun _ => pr_closeTransport _ _ p1
  generalize hw1 : w.setSock sid _ = w1 at p1 ⊢
  have h1 : sid < w1.socks.size → (w1.sock sid).rs = .closing := fun hz => by
    rw [← hw1] at hz ⊢; rw [sock_setSock_self _ _ _ (by simpa using hz)]
  exact pr_setSock _ _ (Nat.le_refl _) Iff.rfl (fun _ => rfl) (fun _ => rfl) (fun hz o => ⟨o.cb, fun _ => Or.inl (h1 hz), o.cu⟩)
    (fun _ a => a.congr Iff.rfl rfl rfl rfl rfl) p1

theorem pr_shutdown {w0 w : World} (h : Pres w0 w) : Pres w0 (shutdown w) :=
  foldl_ind (fun _ _ h => pr_appClose _ _ h) h

theorem pr_appSend {w0 w : World} (sid : Nat) (m : Msg) (compress wantCb : Bool) (pre : Option Msg) (h : Pres w0 w) :
    Pres w0 (appSend w sid m compress wantCb pre) := by
  unfold appSend
  exact pr_sendPacket _ _ _ (ite_ind (fun _ => pr_fields _ h) fun _ => h)

theorem pr_fireTimer {w0 w : World} (id : TimerId) (h : Pres w0 w) : Pres w0 (fireTimer w id) := by
  cases id with
  | pingInterval sid => rw [fireTimer]; exact pr_setSockSame _ _ (pr_sendPacket _ _ _ (pr_setSockSame _ _ h))
  | pingTimeout sid =>
    rw [fireTimer]
    exact ite_ind (fun _ => pr_setSockSame _ _ h) fun _ => pr_sockOnClose _ _ _ (pr_setSockSame _ _ h)
  | closeTimer ti =>
    rw [fireTimer]
    exact ite_ind (fun _ => pr_pollOnClose _ (pr_runCloseFn _ (pr_setTr _ _ h))) fun _ => pr_wsCloseNow _ (pr_setTr _ _ h)
  | upgradeTimeout sid =>
    rw [fireTimer]; split
    · exact ite_ind (fun _ => pr_trClose _ _ (pr_candCleanup _ h)) fun _ => pr_candCleanup _ h
    · exact h
  | check sid =>
    rw [fireTimer]; split
    · rename_i c hc
      have p1 : Pres w0 (w.setSock sid fun s => { s with cand := some { c with checkDue := some (w.now + checkPeriod) } }) :=
        pr_sv h (sameView_setSock _ _ _ (.setCand _ _ (by rw [hc]; rfl)))
      exact ite_ind (fun _ => pr_trSend _ _ p1) fun _ => p1
    · exact h

theorem pr_advance {w0 w : World} (fuel target : Nat) (h : Pres w0 w) : Pres w0 (advance fuel w target) :=
  advance_ind target (fun _ _ h => pr_fields _ h) (fun _ _ h => pr_fireTimer _ h) fuel h

theorem pr_observe {w0 w : World} (h : Pres w0 w) : Pres w0 (observe w) := by
  unfold observe
  refine foldl_ind (fun _ _ h => pr_setConn _ _ h) (foldl_ind (fun _ _ h => ?_) (pr_fields _ h))
  exact ite_ind (fun _ => pr_setReqKeep _ _ (fun _ => rfl) h) fun _ => h

theorem step_pres (w : World) (op : Op) : Pres w (step w op) := by
  unfold step
  refine ite_ind (fun _ => Pres.refl _) fun _ => ?_
  cases op with
  | hsPolling p b j => exact pr_hsPolling _ _ _ (Pres.refl _)
  | hsWebsocket p b => exact pr_hsWebsocket _ _ (Pres.refl _)
  | poll sid ae => exact pr_pollReq _ _ (Pres.refl _)
  | post sid b d body v => exact pr_postReq _ _ _ _ _ (Pres.refl _)
  | abort r => exact pr_abortReq _ (Pres.refl _)
  | wsCandidate sid p b => exact pr_wsCandidate _ _ _ (Pres.refl _)
  | hsWt => exact pr_hsWt (Pres.refl _)
  | wtCandidate sid => exact pr_wtCandidate _ (Pres.refl _)
  | frame c m => exact ite_ind (fun _ => Pres.refl _) fun _ => pr_wsFrame _ _ (Pres.refl _)
  | drop c => exact pr_wsDrop _ (Pres.refl _)
  | closeFrame c code => exact pr_wsDrop _ (pr_setConn _ _ (Pres.refl _))
  | send sid m c cb pre => exact pr_appSend _ _ _ _ _ (Pres.refl _)
  | close sid d => exact pr_appClose _ _ (Pres.refl _)
  | shutdown => exact pr_shutdown (Pres.refl _)
  | adv d => exact pr_advance _ _ (Pres.refl _)
  | settle => exact pr_settle _ (Pres.refl _)
  | observe => exact pr_observe (Pres.refl _)

end EIO.Ses
