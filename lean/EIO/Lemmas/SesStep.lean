import EIO.Lemmas.SesInv
/-
Every function of the session model preserves the invariant and extends the world (`Pres`), in post-composition form
`Pres w0 w → Pres w0 (g w …)`, so that a function body is handled by applying the lemmas of the calls it makes,
outermost first. Here: the primitive updates and the close paths.

`socket.OnClose` closes its transport and gives up a pending upgrade candidate only after taking their listeners off:
both closes are detached, so nothing the invariant reads changes (`SameView`), and as far as the invariant goes
`socket.OnClose` is one step (`pres_close`): the record closes, the session leaves the registry, one close event is
logged. The other close paths reach a session only through it.
-/
namespace EIO.Ses
open EIO EIO.Codec

theorem pr_sv {w0 w w' : World} (h : Pres w0 w) (v : SameView w w') : Pres w0 w' := h.trans v.pres

theorem pr_fields {w0 w : World} (w' : World) (h : Pres w0 w) (h1 : w'.socks = w.socks := by rfl)
    (h2 : w'.slog = w.slog := by rfl) (h3 : w'.registry = w.registry := by rfl) (h4 : w'.reqs = w.reqs := by rfl) :
    Pres w0 w' := pr_sv h (sameView_fields w w' h1 h2 h3 h4)

theorem pr_setTr {w0 w : World} (i : Nat) (f : Tr → Tr) (h : Pres w0 w) : Pres w0 (w.setTr i f) := pr_sv h (sameView_setTr _ _ _)
theorem pr_setConn {w0 w : World} (i : Nat) (f : Conn → Conn) (h : Pres w0 w) : Pres w0 (w.setConn i f) := pr_fields _ h
theorem pr_ev {w0 w : World} (s : String) (h : Pres w0 w) : Pres w0 (w.ev s) := pr_sv h (sameView_ev _ _)
theorem pr_trSend {w0 w : World} (ti : Nat) (b : List Pkt) (h : Pres w0 w) : Pres w0 (trSend w ti b) :=
  pr_sv h (sameView_trSend _ _ _)
theorem pr_answer {w0 w : World} (r : Nat) (resp : Resp) (h : Pres w0 w) : Pres w0 (w.answer r resp) :=
  pr_sv h (sameView_answer _ _ _)
theorem pr_abortData {w0 w : World} (d : Option Nat) (h : Pres w0 w) : Pres w0 (abortData w d) := by
  unfold abortData; split
  · exact pr_answer _ _ h
  · exact h
theorem pr_setSockSame {w0 w : World} (sid : Nat) (f : Sock → Sock) (h : Pres w0 w)
    (hf : ∀ s, SockSame s (f s) := by exact fun _ => ⟨rfl, rfl, rfl, rfl, rfl, rfl, rfl, rfl, id⟩) :
    Pres w0 (w.setSock sid f) := pr_sv h (sameView_setSock _ _ _ (hf _))
theorem pr_setReqKeep {w0 w : World} (r : Nat) (f : Req → Req) (hf : ∀ q, (f q).resp = q.resp) (h : Pres w0 w) :
    Pres w0 (w.setReq r f) := pr_sv h (sameView_setReq _ _ _ (fun x hx => by rw [hf]; exact hx))
theorem pr_pushReq {w0 w : World} (q : Req) (h : Pres w0 w) : Pres w0 { w with reqs := w.reqs.push q } :=
  pr_sv h (sameView_pushReq _ _)
theorem pr_sev {w0 w : World} (sid : Nat) (e : SEv) (hnc : ¬ closedW w sid) (he : e.isClose = false)
    (hn : e.accNeutral = true) (h : Pres w0 w) : Pres w0 (w.sev sid e) :=
  h.trans (pres_sev w sid e (fun _ => hnc) he hn)

/-! ### a detached transport -/

theorem candCleanup_sameView (w : World) (sid : Nat) : SameView w (candCleanup w sid) := by
  unfold candCleanup
  split
  · exact .refl w
  · refine (sameView_setSock _ _ _ ?_).trans (sameView_setTr _ _ _)
    exact ⟨rfl, rfl, rfl, rfl, rfl, rfl, rfl, rfl, nofun⟩

theorem clearTransportF_sameView (f : Nat) (w : World) (sid : Nat) : SameView w (clearTransportF f w sid) := by
  cases f with
  | zero => rw [clearTransportF]; exact .refl w
  | succ f =>
    rw [clearTransportF]
    exact ((sameView_setTr _ _ _).trans (det_trCloseF (tr_setTr_role_none _ _ _ fun _ => rfl) f (.refl _ _)).sameView).trans
      (sameView_setSock _ _ _ ⟨rfl, rfl, rfl, rfl, rfl, rfl, rfl, rfl, id⟩)

theorem candFail_sameView (f : Nat) (w : World) (sid : Nat) : SameView w (candFail f w sid) := by
  cases f with
  | zero => rw [candFail]; exact candCleanup_sameView w sid
  | succ f =>
    rw [candFail]
    split
    · exact .refl w
    · rename_i c hc
      exact (candCleanup_sameView w sid).trans (det_trCloseF (candCleanup_role hc) f (.refl _ _)).sameView

theorem sockOnClose_closed (f : Nat) (w : World) (sid : Nat) (reason : String)
    (hnc : (w.sock sid).rs ≠ .closed) (hsz : sid < w.socks.size) :
    ((sockOnClose (f + 1) w sid reason).sock sid).rs = .closed := by
  rw [sockOnClose, if_neg fun h => h.elim hnc (Nat.not_le_of_lt hsz)]
  dsimp only
  generalize hw5 : candFail f _ sid = w5
  -- neither giving up a candidate nor clearing the transport touches the state of a session
  have h : (w5.sock sid).rs = .closed := by
    rw [← hw5, ((candFail_sameView f _ sid).sock sid).rs, sock_sev]
    exact (((clearTransportF_sameView f _ sid).sock sid).rs).trans (by rw [sock_setSock, if_pos ⟨rfl, hsz⟩])
  rw [sock_setSock]; split <;> exact h

theorem pr_candFail {w0 w : World} (f : Nat) (sid : Nat) (h : Pres w0 w) : Pres w0 (candFail f w sid) :=
  pr_sv h (candFail_sameView f w sid)
theorem pr_candCleanup {w0 w : World} (sid : Nat) (h : Pres w0 w) : Pres w0 (candCleanup w sid) :=
  pr_sv h (candCleanup_sameView w sid)

/-! ### `socket.OnClose` -/

theorem rank_le_three (r : RS) : r.rank ≤ 3 := by cases r <;> decide

/-- `socket.OnClose` without its two detached closes: the record closes (`f`), the session leaves the registry, the
    close event is logged, the write buffer goes (`g`) -/
theorem pres_close (w : World) (sid : Nat) (reason : String) (x : RS) (f g : Sock → Sock)
    (hnc : ¬ closedW w sid) (hsz : sid < w.socks.size)
    (hrs : (g (f (w.sock sid))).rs = .closed) (hcb : (g (f (w.sock sid))).sentCb = [])
    (hann : (g (f (w.sock sid))).announced = (w.sock sid).announced) (hproto : (g (f (w.sock sid))).proto = (w.sock sid).proto)
    (hupg : (g (f (w.sock sid))).upgraded = (w.sock sid).upgraded)
    (hcand : (g (f (w.sock sid))).cand.isSome → (w.sock sid).cand.isSome) :
    Pres w ((({ w.setSock sid f with registry := w.registry.filter (· ≠ sid) } : World).sev sid (.close reason x)).setSock sid g) := by
  intro i
  generalize hw' : World.setSock _ sid g = w'
  have hsize : w'.socks.size = w.socks.size := by
    rw [← hw', socks_size_setSock, socks_sev]; exact socks_size_setSock w sid f
  have hself : w'.sock sid = g (f (w.sock sid)) := by
    rw [← hw', sock_setSock_self _ _ _ (by rw [socks_sev]; exact (socks_size_setSock w sid f).symm ▸ hsz), sock_sev]
    exact congrArg g (sock_setSock_self w sid f hsz)
  have hoth : ∀ j, j ≠ sid → w'.sock j = w.sock j := fun j hj => by
    rw [← hw', sock_setSock_other _ _ _ _ hj, sock_sev]; exact sock_setSock_other w sid j f hj
  have hlog : w'.slog = w.slog ++ [(sid, .close reason x)] := by rw [← hw', slog_setSock, slog_sev]; rfl
  have hreg : w'.registry = w.registry.filter (· ≠ sid) := by rw [← hw', registry_setSock, registry_sev]
  have hm : ∀ j, j ∈ w'.registry ↔ j ∈ w.registry ∧ j ≠ sid := fun j => by rw [hreg, List.mem_filter]; simp
  have hn : ¬ closeIn sid w.slog := fun hc => hnc (i.logClosed sid hc)
  refine inv_step i sid [.close reason x] hlog (fun j hj => ?_) (Nat.le_of_eq hsize.symm)
    (fun j hj => ⟨fun h => ((hm j).mp h).1, fun h => (hm j).mpr ⟨h, hj⟩⟩) ?_ ?_ ?_ ?_ ?_
  · rw [hoth j hj]; exact SockSame.refl _
  · rw [← hw']; unfold ReqsExt; rw [reqs_setSock, reqs_sev]; exact ReqsExt.refl w
  · rw [hlog, hsize]; exact i.log.snoc_neutral sid _ rfl fun _ => hn
  · rw [hreg]; exact i.regNodup.filter _
  · rw [hself, hlog]
    refine ⟨fun _ => hrs, fun _ => ?_, ⟨fun _ => hcb, fun _ => Or.inr hrs, fun hd => hupg ▸ (i.sockOK sid).cu (hcand hd)⟩,
      fun h => absurd rfl ((hm sid).mp h).2, fun _ => Or.inr hrs,
      ((i.acc.ses sid).close hrs hupg).append_neutral _ (neutral_single rfl sid sid)⟩
    rw [closeIn_append, closeIn_single]; exact Or.inr ⟨rfl, rfl⟩
  · rw [hself]
    exact ⟨hrs ▸ rank_le_three _, fun _ => hproto, fun h => hann ▸ h, fun h => absurd rfl ((hm sid).mp h).2⟩

theorem pr_sockOnClose {w0 w : World} (f : Nat) (sid : Nat) (reason : String) (h : Pres w0 w) :
    Pres w0 (sockOnClose f w sid reason) := by
  cases f with
  | zero => rw [sockOnClose]; exact h
  | succ f =>
    rw [sockOnClose]
    refine ite_ind (fun _ => h) fun hg => h.trans ?_
    -- up to `SameView` (its congruences under the updates that follow the two detached closes), the step of `pres_close`
    refine pr_sv ?_ (sameView_setSock_congr
      ((sameView_sev_congr (sameView_registry_congr (clearTransportF_sameView f _ sid) (List.filter (· ≠ sid))) sid _).trans
        (candFail_sameView f _ sid))
      fun _ _ v => ⟨v.rs, v.sentCb, v.drainClose, v.announced, v.proto, rfl, v.packetsFn, v.upgraded, v.candm⟩)
    exact pres_close w sid reason _ _ _ (fun h => hg (Or.inl h)) (Nat.lt_of_not_le fun h => hg (Or.inr h)) rfl rfl rfl rfl rfl id

theorem pr_trEmitClose {w0 w : World} (f : Nat) (ti : Nat) (h : Pres w0 w) : Pres w0 (trEmitClose f w ti) := by
  cases f with
  | zero => rw [trEmitClose]; exact h
  | succ f =>
    rw [trEmitClose]; split
    · exact pr_sockOnClose _ _ _ h
    · exact pr_candFail _ _ h
    · exact h

theorem pr_trOnErrorF {w0 w : World} (f : Nat) (ti : Nat) (h : Pres w0 w) : Pres w0 (trOnErrorF f w ti) := by
  cases f with
  | zero => rw [trOnErrorF]; exact h
  | succ f =>
    rw [trOnErrorF]; split
    · exact pr_sockOnClose _ _ _ h
    · exact pr_candFail _ _ h
    · exact h

theorem pr_trOnCloseBaseF {w0 w : World} (f : Nat) (ti : Nat) (h : Pres w0 w) : Pres w0 (trOnCloseBaseF f w ti) := by
  cases f with
  | zero => rw [trOnCloseBaseF]; exact h
  | succ f => rw [trOnCloseBaseF]; exact ite_ind (fun _ => h) fun _ => pr_trEmitClose _ _ (pr_setTr _ _ h)

theorem pr_pollOnCloseF {w0 w : World} (f : Nat) (ti : Nat) (h : Pres w0 w) : Pres w0 (pollOnCloseF f w ti) := by
  cases f with
  | zero => rw [pollOnCloseF]; exact h
  | succ f => rw [pollOnCloseF]; exact pr_trOnCloseBaseF _ _ (ite_ind (fun _ => pr_trSend _ _ h) fun _ => h)

theorem pr_runCloseFnF {w0 w : World} (f : Nat) (ti : Nat) (h : Pres w0 w) : Pres w0 (runCloseFnF f w ti) := by
  cases f with
  | zero => rw [runCloseFnF]; exact h
  | succ f =>
    rw [runCloseFnF]; split
    · exact pr_sockOnClose _ _ _ (pr_setTr _ _ h)
    · exact pr_setTr _ _ h

theorem pr_wsCloseNowF {w0 w : World} (f : Nat) (ti : Nat) (h : Pres w0 w) : Pres w0 (wsCloseNowF f w ti) := by
  cases f with
  | zero => rw [wsCloseNowF]; exact h
  | succ f =>
    rw [wsCloseNowF]
    exact pr_trOnCloseBaseF _ _ (pr_setConn _ _ (pr_runCloseFnF _ _ (pr_setTr _ _ h)))

theorem pr_trCloseF {w0 w : World} (f : Nat) (ti : Nat) (fn : Option Nat) (h : Pres w0 w) :
    Pres w0 (trCloseF f w ti fn) := by
  cases f with
  | zero => rw [trCloseF]; exact h
  | succ f =>
    rw [trCloseF]
    refine ite_ind (fun _ => h) fun _ => ?_
    have h1 : Pres w0 (w.setTr ti fun t => { t with rs := .closing, closeFn := fn }) := pr_setTr _ _ h
    refine ite_ind (fun _ => ?_) fun _ => ite_ind (fun _ => pr_wsCloseNowF _ _ h1) fun _ => pr_setTr _ _ h1
    have h2 := pr_abortData (w.tr ti).dataReq h1
    exact ite_ind (fun _ => pr_pollOnCloseF _ _ (pr_runCloseFnF _ _ (pr_trSend _ _ h2))) fun _ =>
      ite_ind (fun _ => pr_pollOnCloseF _ _ (pr_runCloseFnF _ _ h2)) fun _ => pr_setTr _ _ h2

theorem pr_trOnError {w0 w : World} (ti : Nat) (h : Pres w0 w) : Pres w0 (trOnError w ti) := pr_trOnErrorF _ _ h
theorem pr_trOnCloseBase {w0 w : World} (ti : Nat) (h : Pres w0 w) : Pres w0 (trOnCloseBase w ti) := pr_trOnCloseBaseF _ _ h
theorem pr_pollOnClose {w0 w : World} (ti : Nat) (h : Pres w0 w) : Pres w0 (pollOnClose w ti) := pr_pollOnCloseF _ _ h
theorem pr_runCloseFn {w0 w : World} (ti : Nat) (h : Pres w0 w) : Pres w0 (runCloseFn w ti) := pr_runCloseFnF _ _ h
theorem pr_wsCloseNow {w0 w : World} (ti : Nat) (h : Pres w0 w) : Pres w0 (wsCloseNow w ti) := pr_wsCloseNowF _ _ h
theorem pr_trClose {w0 w : World} (ti : Nat) (fn : Option Nat) (h : Pres w0 w) : Pres w0 (trClose w ti fn) := pr_trCloseF _ _ _ h
theorem pr_clearTransport {w0 w : World} (sid : Nat) (h : Pres w0 w) : Pres w0 (clearTransport w sid) :=
  pr_sv h (clearTransportF_sameView _ w sid)

theorem pr_closeTransportF {w0 w : World} (f : Nat) (sid : Nat) (d : Bool) (h : Pres w0 w) :
    Pres w0 (closeTransportF f w sid d) := by
  cases f with
  | zero => rw [closeTransportF]; exact h
  | succ f =>
    rw [closeTransportF]
    have h1 : Pres w0 (if d = true then w.setTr (w.sock sid).tr fun t => { t with discarded := true } else w) :=
      ite_ind (fun _ => pr_setTr _ _ h) fun _ => h
    exact ite_ind (fun _ => pr_sockOnClose _ _ _ h1) fun _ => pr_trClose _ _ h1

end EIO.Ses
