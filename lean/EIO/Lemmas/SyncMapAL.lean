import EIO.Model.SyncMap
/-! Association-list lemmas for the model of types/map.go -/
namespace EIO.SMap

@[simp] theorem lk_nil (k : Int) : lk [] k = none := rfl
theorem lk_cons (k' : Int) (e : Nat) (l : AL) (k : Int) :
    lk ((k', e) :: l) k = if k' = k then some e else lk l k := rfl

theorem del_cons (k' : Int) (e : Nat) (l : AL) (k : Int) :
    del ((k', e) :: l) k = if k' = k then del l k else (k', e) :: del l k := by
  unfold del; rw [List.filter_cons]; by_cases h : k' = k <;> simp [h]

theorem lk_del (l : AL) (k k' : Int) : lk (del l k') k = if k' = k then none else lk l k := by
  induction l with
  | nil => exact (ite_self _).symm
  | cons p l ih =>
    obtain ⟨k'', e⟩ := p
    rw [del_cons, lk_cons]
    by_cases h1 : k'' = k'
    · rw [if_pos h1, ih, h1]; split <;> rfl
    · rw [if_neg h1, lk_cons, ih]
      by_cases h2 : k'' = k
      · rw [if_pos h2, if_pos h2, if_neg (h2 ▸ Ne.symm h1)]
      · rw [if_neg h2, if_neg h2]

theorem lk_ins (l : AL) (k' : Int) (e : Nat) (k : Int) :
    lk (ins l k' e) k = if k' = k then some e else lk l k := by
  unfold ins; rw [lk_cons, lk_del]; split <;> rfl

theorem lk_some_mem {l : AL} {k : Int} {e : Nat} (h : lk l k = some e) : (k, e) ∈ l := by
  induction l with
  | nil => cases h
  | cons p l ih =>
    obtain ⟨k', e'⟩ := p
    rw [lk_cons] at h
    split at h
    · rename_i hk; cases h; rw [hk]; exact List.mem_cons_self
    · exact List.mem_cons_of_mem _ (ih h)

/-- keys without repetition -/
def ND (l : AL) : Prop := (l.map Prod.fst).Nodup

theorem nd_mem_lk {l : AL} (h : ND l) {k : Int} {e : Nat} (hm : (k, e) ∈ l) : lk l k = some e := by
  induction l with
  | nil => cases hm
  | cons p l ih =>
    obtain ⟨k', e'⟩ := p
    obtain ⟨h1, h2⟩ := List.nodup_cons.1 h
    rw [lk_cons]
    rcases List.mem_cons.1 hm with hp | hp
    · cases hp; exact if_pos rfl
    · rw [if_neg fun hk : k' = k => h1 (hk ▸ List.mem_map.2 ⟨_, hp, rfl⟩)]; exact ih h2 hp

theorem lk_eq_some {l : AL} (h : ND l) {k : Int} {e : Nat} : lk l k = some e ↔ (k, e) ∈ l :=
  ⟨lk_some_mem, nd_mem_lk h⟩

theorem nd_filter {l : AL} (h : ND l) (p : Int × Nat → Bool) : ND (l.filter p) :=
  List.Nodup.sublist (List.Sublist.map _ List.filter_sublist) h

theorem nd_del {l : AL} (h : ND l) (k : Int) : ND (del l k) := nd_filter h _

theorem nd_ins {l : AL} (h : ND l) (k : Int) (e : Nat) : ND (ins l k e) :=
  List.nodup_cons.2 ⟨fun hm => by
    obtain ⟨p, hp, hk⟩ := List.mem_map.1 hm
    exact of_decide_eq_true (List.mem_filter.1 hp).2 hk, nd_del h k⟩

theorem lk_filter {l : AL} (h : ND l) (p : Int × Nat → Bool) (k : Int) :
    lk (l.filter p) k = (lk l k).filter fun e => p (k, e) :=
  Option.ext fun e => by
    rw [lk_eq_some (nd_filter h p), List.mem_filter, ← lk_eq_some h, Option.filter_eq_some_iff]

/-- the pairs `(key, f entry)` of an association list without repeated keys (what `Range` visits) -/
theorem mem_filterMap_lk {l : AL} (h : ND l) (f : Nat → Option Int) (k v : Int) :
    (k, v) ∈ l.filterMap (fun p => (f p.2).map fun v => (p.1, v)) ↔ (lk l k).bind f = some v := by
  rw [List.mem_filterMap, Option.bind_eq_some_iff]
  constructor
  · rintro ⟨⟨k0, e⟩, hm, hv⟩
    obtain ⟨v0, hv0, heq⟩ := Option.map_eq_some_iff.1 hv
    cases heq
    exact ⟨e, nd_mem_lk h hm, hv0⟩
  · rintro ⟨e, he, hv⟩
    exact ⟨(k, e), lk_some_mem he, by rw [hv]; rfl⟩

theorem nd_filterMap_keys {l : AL} (h : ND l) (f : Nat → Option Int) :
    ((l.filterMap fun p => (f p.2).map fun v => (p.1, v)).map Prod.fst).Nodup := by
  refine List.pairwise_map.2 (List.Pairwise.filterMap _ ?_ (List.pairwise_map.1 h))
  intro p p' hne b hb b' hb'
  obtain ⟨_, _, rfl⟩ := Option.map_eq_some_iff.1 hb
  obtain ⟨_, _, rfl⟩ := Option.map_eq_some_iff.1 hb'
  exact hne

theorem length_del_le (l : AL) (k : Int) : (del l k).length ≤ l.length := List.length_filter_le _ _

end EIO.SMap
