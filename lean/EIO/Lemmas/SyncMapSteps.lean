import EIO.Lemmas.SyncMapWF
/-! Internal steps of types/map.go: promotion, `missLocked`, `m.dirty[key] = e` (unexpunge, a new entry),
`dirtyLocked`, `delete(m.dirty, key)`. Each keeps `WF`, and `St.abs` changes at most at the key concerned. -/
namespace EIO.SMap

/-- the dirty map becomes the read map (`missLocked` when the misses pay for it, `Range`) -/
def St.prom (s : St) : St := { s with read := s.dl, amended := false, dirty := none, misses := 0 }

theorem wf_prom {s : St} (h : WF s) : WF s.prom := by
  constructor
  · exact h.nofault
  · exact h.dnd
  · exact List.nodup_nil
  · intro k e hk; exact h.bound k e (Or.inr (hk.elim id nofun))
  · intro k k' e h1 h2; exact h.inj k k' e (Or.inr (h1.elim id nofun)) (Or.inr (h2.elim id nofun))
  · intro _; exact ⟨rfl, h.dlive⟩
  · intro hh; exact absurd rfl hh
  · intro _ k _; rfl
  · intro k e hk; cases hk

theorem ent_prom (s : St) (k : Int) : s.prom.ent k = lk s.dl k := ent_of_not_amended (s := s.prom) rfl k

theorem abs_prom {s : St} (h : WF s) (ha : s.amended = true) : s.prom.abs = s.abs := by
  funext k
  rw [abs_eq, ent_prom]
  cases hr : lk s.read k with
  | some e =>
    rw [abs_of_ent (ent_of_read hr)]
    obtain ⟨hl, hl'⟩ := h.link (h.dirty_of_amended ha) k e hr
    cases hdk : lk s.dl k with
    | none => rw [hl.2 hdk]; rfl
    | some e' => rw [hl' e' hdk]; rfl
  | none => rw [abs_eq s, ent_of_amended hr ha]; rfl

theorem wf_misses {s : St} (h : WF s) (m : Nat) : WF { s with misses := m } :=
  ⟨h.nofault, h.rnd, h.dnd, h.bound, h.inj, h.nilDirty, h.link, h.sub, h.dlive⟩

theorem abs_misses (s : St) (m : Nat) (k : Int) : ({ s with misses := m } : St).abs k = s.abs k := rfl

theorem missLocked_ind {P : St → Prop} (s : St) (h1 : P { s with misses := s.misses + 1 }) (h2 : P s.prom) :
    P s.missLocked := by
  unfold St.missLocked; dsimp only; split
  · exact h1
  · exact h2

theorem wf_missLocked {s : St} (h : WF s) : WF s.missLocked :=
  missLocked_ind s (wf_misses h _) (wf_prom h)

theorem abs_missLocked {s : St} (h : WF s) (ha : s.amended = true) : s.missLocked.abs = s.abs :=
  missLocked_ind (P := fun t => t.abs = s.abs) s rfl (abs_prom h ha)

theorem slot_missLocked (s : St) (i : Nat) : s.missLocked.slot i = s.slot i :=
  missLocked_ind (P := fun t => t.slot i = s.slot i) s rfl rfl

theorem eload_missLocked (s : St) : s.missLocked.eload = s.eload :=
  funext fun i => congrArg Slot.load (slot_missLocked s i)

theorem missLocked_setSlot (s : St) (e : Nat) (x : Slot) :
    (s.setSlot e x).missLocked = s.missLocked.setSlot e x := by
  show (if s.misses + 1 < s.dl.length then _ else _) = St.setSlot (if s.misses + 1 < s.dl.length then _ else _) e x
  split <;> rfl

theorem ent_missLocked {s : St} (ha : s.amended = true) {k : Int} (hr : lk s.read k = none) :
    s.missLocked.ent k = lk s.dl k :=
  missLocked_ind (P := fun t => t.ent k = lk s.dl k) s (ent_of_amended hr ha) (ent_prom s k)

theorem dirtyPut_eq {s : St} (hd : s.dirty ≠ none) (k : Int) (e : Nat) :
    s.dirtyPut k e = { s with dirty := some (ins s.dl k e) } := by
  unfold St.dirtyPut St.dl; split
  · rename_i hs; rw [hs]; rfl
  · rename_i hs; exact absurd hs hd

/-- `m.dirty[k] = e` together with a write of `x` to `e`, where no other key holds `e`: the unexpunge
    of a read entry (`x = nil`) and the new entry of a key the read map lacks (`e = s.next`, `n = e + 1`) -/
theorem wf_put {s : St} (h : WF s) (hd : s.dirty ≠ none) {k : Int} {e n : Nat} {x : Slot}
    (hone : ∀ k', lk s.read k' = some e ∨ lk s.dl k' = some e → k' = k)
    (hrk : ∀ e', lk s.read k = some e' → e' = e) (hak : lk s.read k = none → s.amended = true)
    (hx : x ≠ .expunged) (hn : s.next ≤ n) (he : e < n) :
    let s' : St :=
      { s with heap := fun i => if i = e then x else s.heap i, next := n, dirty := some (ins s.dl k e) }
    WF s' ∧ s'.abs = upd s.abs k x.load := by
  intro s'
  have hdl' : ∀ k', lk s'.dl k' = if k = k' then some e else lk s.dl k' := fun k' => lk_ins ..
  have hsl : ∀ i, s'.slot i = if i = e then x else s.slot i := fun _ => rfl
  have hne : ∀ k' e', k' ≠ k → lk s.read k' = some e' ∨ lk s.dl k' = some e' → e' ≠ e :=
    fun k' e' hkk hh he => hkk (hone k' (he ▸ hh))
  -- what a key holds in `s'` it held in `s`, but for `k ↦ e`
  have hold : ∀ k' e', lk s.read k' = some e' ∨ lk s'.dl k' = some e' →
      (k' = k ∧ e' = e) ∨ (k' ≠ k ∧ (lk s.read k' = some e' ∨ lk s.dl k' = some e')) := by
    intro k' e' hh
    by_cases hkk : k' = k
    · refine Or.inl ⟨hkk, ?_⟩
      subst hkk
      rcases hh with a | a
      · exact hrk e' a
      · rw [hdl', if_pos rfl] at a; exact (Option.some.inj a).symm
    · refine Or.inr ⟨hkk, hh.imp id fun a => ?_⟩
      rwa [hdl', if_neg (Ne.symm hkk)] at a
  refine ⟨⟨h.nofault, h.rnd, nd_ins h.dnd k e, ?_, ?_, nofun, ?_, ?_, ?_⟩, ?_⟩
  · intro k' e' hh
    rcases hold k' e' hh with ⟨_, a⟩ | ⟨_, b⟩
    · rw [a]; exact he
    · exact Nat.lt_of_lt_of_le (h.bound k' e' b) hn
  · intro k1 k2 e' h1 h2
    rcases hold k1 e' h1 with ⟨a, a'⟩ | ⟨a, b⟩ <;> rcases hold k2 e' h2 with ⟨c, c'⟩ | ⟨c, c'⟩
    · rw [a, c]
    · exact absurd a' (hne k2 e' c c')
    · exact absurd c' (hne k1 e' a b)
    · exact h.inj k1 k2 e' b c'
  · intro _ k' e' hk; rw [hdl', hsl]
    by_cases hkk : k = k'
    · subst hkk; rw [hrk e' hk, if_pos rfl, if_pos rfl]
      exact ⟨⟨fun a => absurd a hx, nofun⟩, fun _ a => (Option.some.inj a).symm⟩
    · rw [if_neg hkk, if_neg (hne k' e' (Ne.symm hkk) (Or.inl hk))]
      exact h.link hd k' e' hk
  · intro ha k' hk; rw [hdl']
    by_cases hkk : k = k'
    · subst hkk; rw [hak hk] at ha; cases ha
    · rw [if_neg hkk]; exact h.sub ha k' hk
  · intro k' e' hk; rw [hdl'] at hk; rw [hsl]
    by_cases hkk : k = k'
    · rw [if_pos hkk] at hk; rw [if_pos (Option.some.inj hk).symm]; exact hx
    · rw [if_neg hkk] at hk; rw [if_neg (hne k' e' (Ne.symm hkk) (Or.inr hk))]; exact h.dlive k' e' hk
  · have hent : ∀ k', s'.ent k' = if k' = k then some e else s.ent k' := by
      intro k'; unfold St.ent; rw [hdl', show s'.read = s.read from rfl, show s'.amended = s.amended from rfl]
      by_cases hkk : k' = k
      · subst hkk; rw [if_pos rfl, if_pos rfl]
        cases hr : lk s.read k' with
        | some e' => rw [hrk e' hr]
        | none => exact if_pos (hak hr)
      · rw [if_neg hkk, if_neg (Ne.symm hkk)]
    funext k'; unfold upd; rw [abs_eq, hent]
    by_cases hkk : k' = k
    · rw [if_pos hkk, if_pos hkk]; show (s'.slot e).load = _; rw [hsl, if_pos rfl]
    · rw [if_neg hkk, if_neg hkk, abs_eq]
      cases hk : s.ent k' with
      | none => rfl
      | some e' => show (s'.slot e').load = _; rw [hsl, if_neg (hne k' e' hkk (ent_some hk))]; rfl

/-- `e.unexpungeLocked()` succeeded, `m.dirty[key] = e` -/
def St.unexp (s : St) (k : Int) (e : Nat) : St := (s.setSlot e .nil).dirtyPut k e

theorem wf_unexp {s : St} (h : WF s) {k : Int} {e : Nat} (hr : lk s.read k = some e)
    (hx : s.slot e = .expunged) :
    (WF (s.unexp k e) ∧ (s.unexp k e).abs = s.abs) ∧
      (s.unexp k e).ent k = some e ∧ (s.unexp k e).slot e = .nil := by
  have hd := h.dirty_of_expunged hr hx
  have hab : s.abs k = Slot.nil.load := by rw [abs_of_ent (ent_of_read hr), hx]; rfl
  rw [St.unexp, dirtyPut_eq (s := s.setSlot e .nil) hd, ← upd_self hab]
  refine ⟨?_, ent_of_read hr, if_pos rfl⟩
  exact wf_put h hd (fun k' hh => h.inj k' k e hh (Or.inl hr))
    (fun e' he' => Option.some.inj (he'.symm.trans hr)) (fun hn => by rw [hr] at hn; cases hn) nofun
    (Nat.le_refl _) (h.bound k e (Or.inl hr))

theorem dirtyLocked_core {s : St} (h : WF s) (hd : s.dirty = none) :
    let s' : St := { s with
      heap := fun i => if s.heap i = .nil ∧ s.read.any (fun p => p.2 = i) then .expunged else s.heap i
      dirty := some (s.read.filter fun p => match s.slot p.2 with | .val _ => true | _ => false) }
    WF s' ∧ s'.abs = s.abs := by
  intro s'
  obtain ⟨ha, hlive⟩ := h.nilDirty hd
  have hdl' : ∀ k', lk s'.dl k' =
      (lk s.read k').filter fun e => match s.slot e with | .val _ => true | _ => false :=
    fun k' => lk_filter h.rnd _ k'
  have hsl : ∀ i, s'.slot i =
      if s.slot i = .nil ∧ s.read.any (fun p => p.2 = i) then .expunged else s.slot i := fun _ => rfl
  have hsub : ∀ k' e, lk s'.dl k' = some e → lk s.read k' = some e ∧ ∃ v, s.slot e = .val v := by
    intro k' e hk; rw [hdl', Option.filter_eq_some_iff] at hk
    refine ⟨hk.1, ?_⟩
    cases hs : s.slot e with
    | val v => exact ⟨v, rfl⟩
    | nil => rw [hs] at hk; cases hk.2
    | expunged => rw [hs] at hk; cases hk.2
  have hrd' : ∀ k' e, lk s.read k' = some e ∨ lk s'.dl k' = some e → lk s.read k' = some e :=
    fun k' e hh => hh.elim id fun a => (hsub k' e a).1
  refine ⟨⟨h.nofault, h.rnd, nd_filter h.rnd _, ?_, ?_, nofun, ?_, ?_, ?_⟩, funext fun k' => ?_⟩
  · exact fun k' e hk => h.bound k' e (Or.inl (hrd' k' e hk))
  · exact fun k1 k2 e h1 h2 => h.inj k1 k2 e (Or.inl (hrd' k1 e h1)) (Or.inl (hrd' k2 e h2))
  · intro _ k' e hk
    have hany : s.read.any (fun p => p.2 = e) = true :=
      List.any_eq_true.2 ⟨(k', e), lk_some_mem hk, decide_eq_true rfl⟩
    rw [hdl', hsl, hk, hany]
    cases hs : s.slot e with
    | val v => simp [hs]
    | nil => simp [hs]
    | expunged => exact absurd hs (hlive k' e hk)
  · intro _ k' hk; rw [hdl', hk]; rfl
  · intro k' e hk
    obtain ⟨_, v, hv⟩ := hsub k' e hk
    rw [hsl, hv, if_neg fun c => nomatch c.1]; nofun
  · cases hk : lk s.read k' with
    | some e =>
      rw [abs_of_ent (ent_of_read hk), abs_of_ent (s := s') (ent_of_read hk), hsl]; split
      · rename_i hc; rw [hc.1]; rfl
      · rfl
    | none => rw [abs_of_not_amended hk ha, abs_of_not_amended (s := s') hk ha]

theorem wf_dirtyLocked {s : St} (h : WF s) :
    (WF s.dirtyLocked ∧ s.dirtyLocked.abs = s.abs) ∧ s.dirtyLocked.read = s.read
      ∧ s.dirtyLocked.amended = s.amended ∧ s.dirtyLocked.dirty ≠ none := by
  unfold St.dirtyLocked; split
  · rename_i d hd; exact ⟨⟨h, rfl⟩, rfl, rfl, hd ▸ Option.some_ne_none d⟩
  · rename_i hd; exact ⟨dirtyLocked_core h hd, rfl, rfl, nofun⟩

/-- `m.read.Store(&readOnly{m: read.m, amended: true})` -/
theorem wf_setAmended {s : St} (h : WF s) (hd : s.dirty ≠ none) (ha : s.amended = false) :
    WF { s with amended := true } ∧ ({ s with amended := true } : St).abs = s.abs := by
  refine ⟨⟨h.nofault, h.rnd, h.dnd, h.bound, h.inj, fun hh => absurd hh hd, h.link, nofun, h.dlive⟩,
    funext fun k => ?_⟩
  cases hr : lk s.read k with
  | some e =>
    exact (abs_of_ent (s := { s with amended := true }) (ent_of_read hr)).trans (abs_of_ent (ent_of_read hr)).symm
  | none =>
    have hk := h.sub ha k hr
    exact (abs_of_miss (s := { s with amended := true }) hr hk).trans (abs_of_miss hr hk).symm

/-- `if !read.amended { m.dirtyLocked(); m.read.Store(&readOnly{m: read.m, amended: true}) }` -/
def St.amend (s : St) : St := if ¬ s.amended then { s.dirtyLocked with amended := true } else s

theorem wf_amend {s : St} (h : WF s) :
    (WF s.amend ∧ s.amend.abs = s.abs) ∧ s.amend.read = s.read ∧ s.amend.amended = true := by
  unfold St.amend
  by_cases ha : s.amended = true
  · rw [if_neg (not_not_intro ha)]; exact ⟨⟨h, rfl⟩, rfl, ha⟩
  · rw [if_pos ha]
    obtain ⟨⟨w, ab⟩, rd, am, dn⟩ := wf_dirtyLocked h
    obtain ⟨w', ab'⟩ := wf_setAmended w dn (am.trans (eq_false_of_ne_true ha))
    exact ⟨⟨w', ab'.trans ab⟩, rd, rfl⟩

theorem wf_addNew {s : St} (h : WF s) {k : Int} (v : Int) (hr : lk s.read k = none) :
    WF (s.addNew k v) ∧ (s.addNew k v).abs = upd s.abs k (some v) := by
  obtain ⟨⟨w, ab⟩, rd, am⟩ := wf_amend h
  have hd := w.dirty_of_amended am
  rw [show s.addNew k v = _ from dirtyPut_eq (s := (s.amend.newEntry v).1) hd k _, ← ab]
  exact wf_put (x := .val v) w hd (fun k' hh => absurd (w.bound k' _ hh) (Nat.lt_irrefl _))
    (fun e' he' => by rw [rd, hr] at he'; cases he') (fun _ => am) nofun (Nat.le_succ _) (Nat.lt_succ_self _)

/-- `delete(m.dirty, key)` -/
def St.dirtyDel (s : St) (k : Int) : St := { s with dirty := s.dirty.map (del · k) }

theorem wf_dirtyDel {s : St} (h : WF s) {k : Int} (hr : lk s.read k = none) :
    WF (s.dirtyDel k) ∧ (s.dirtyDel k).abs = upd s.abs k none := by
  have hdl : (s.dirtyDel k).dl = del s.dl k := by unfold St.dirtyDel St.dl; cases s.dirty <;> rfl
  have hlk : ∀ k', lk (s.dirtyDel k).dl k' = if k = k' then none else lk s.dl k' :=
    fun k' => by rw [hdl, lk_del]
  have hmono : ∀ k' e, lk (s.dirtyDel k).dl k' = some e → lk s.dl k' = some e := by
    intro k' e hk; rw [hlk] at hk; split at hk
    · cases hk
    · exact hk
  have hnone : (s.dirtyDel k).dirty = none ↔ s.dirty = none := by
    unfold St.dirtyDel; cases s.dirty <;> simp
  refine ⟨⟨h.nofault, h.rnd, ?_, ?_, ?_, ?_, ?_, ?_, ?_⟩, funext fun k' => ?_⟩
  · rw [hdl]; exact nd_del h.dnd k
  · exact fun k' e hh => h.bound k' e (hh.imp id (hmono k' e))
  · exact fun k1 k2 e h1 h2 => h.inj k1 k2 e (h1.imp id (hmono k1 e)) (h2.imp id (hmono k2 e))
  · exact fun hh => h.nilDirty (hnone.1 hh)
  · intro hh k' e hk
    rw [hlk, if_neg fun x : k = k' => by rw [x, show lk s.read k' = some e from hk] at hr; cases hr]
    exact h.link (fun hn => hh (hnone.2 hn)) k' e hk
  · intro ha k' hk; rw [hlk]; split
    · rfl
    · exact h.sub ha k' hk
  · exact fun k' e hk => h.dlive k' e (hmono k' e hk)
  · unfold upd
    by_cases hkk : k' = k
    · rw [if_pos hkk, hkk]; exact abs_of_miss hr (by rw [hlk, if_pos rfl])
    · have hent : (s.dirtyDel k).ent k' = s.ent k' := by
        unfold St.ent; rw [hlk, if_neg (Ne.symm hkk)]; rfl
      rw [if_neg hkk, abs_eq, abs_eq, hent]; rfl

end EIO.SMap
