import EIO.Lemmas.SyncMapAL
/-! The invariant of the model of types/map.go, and what a write to an entry does -/
namespace EIO.SMap

/-- the entry a reader reaches for a key -/
def St.ent (s : St) (k : Int) : Option Nat :=
  match lk s.read k with
  | some e => some e
  | none => if s.amended then lk s.dl k else none

theorem abs_eq (s : St) (k : Int) : s.abs k = (s.ent k).bind s.eload := by
  unfold St.abs St.ent
  cases lk s.read k with
  | some e => rfl
  | none => dsimp only; split <;> rfl

theorem ent_of_read {s : St} {k : Int} {e : Nat} (hr : lk s.read k = some e) : s.ent k = some e := by
  unfold St.ent; rw [hr]

theorem ent_of_amended {s : St} {k : Int} (hr : lk s.read k = none) (ha : s.amended = true) :
    s.ent k = lk s.dl k := by
  unfold St.ent; rw [hr]; exact if_pos ha

theorem ent_of_not_amended {s : St} (ha : s.amended = false) (k : Int) : s.ent k = lk s.read k := by
  unfold St.ent
  cases lk s.read k with
  | some e => rfl
  | none => rw [ha]; rfl

theorem ent_some {s : St} {k : Int} {e : Nat} (h : s.ent k = some e) :
    lk s.read k = some e ∨ lk s.dl k = some e := by
  unfold St.ent at h; split at h
  · rename_i hr; exact Or.inl (hr.trans h)
  · split at h
    · exact Or.inr h
    · cases h

theorem abs_of_ent {s : St} {k : Int} {e : Nat} (he : s.ent k = some e) : s.abs k = (s.slot e).load := by
  rw [abs_eq, he]; rfl

theorem abs_of_ent_none {s : St} {k : Int} (he : s.ent k = none) : s.abs k = none := by
  rw [abs_eq, he]; rfl

/-- the ordinary map after `m[k] = v` -/
def upd (f : Int → Option Int) (k : Int) (x : Option Int) : Int → Option Int :=
  fun k' => if k' = k then x else f k'

theorem upd_self {f : Int → Option Int} {k : Int} {x : Option Int} (h : f k = x) : upd f k x = f := by
  funext k'; unfold upd; split
  · rename_i hk; rw [hk, h]
  · rfl

theorem upd_upd (f : Int → Option Int) (k : Int) (x y : Option Int) : upd (upd f k x) k y = upd f k y := by
  funext k'; unfold upd; split <;> rfl

/-- what the comments of `Map` and `entry` say, as one predicate -/
structure WF (s : St) : Prop where
  nofault : s.fault = false
  rnd : ND s.read
  dnd : ND s.dl
  bound : ∀ k e, (lk s.read k = some e ∨ lk s.dl k = some e) → e < s.next
  inj : ∀ k k' e, (lk s.read k = some e ∨ lk s.dl k = some e) →
    (lk s.read k' = some e ∨ lk s.dl k' = some e) → k = k'
  /-- `p == expunged` implies `m.dirty != nil`; `amended` implies `m.dirty != nil` -/
  nilDirty : s.dirty = none → s.amended = false ∧ ∀ k e, lk s.read k = some e → s.slot e ≠ .expunged
  /-- with a dirty map: a read entry is expunged iff its key is missing from the dirty map,
      and otherwise the dirty map holds the very same entry -/
  link : s.dirty ≠ none → ∀ k e, lk s.read k = some e →
    (s.slot e = .expunged ↔ lk s.dl k = none) ∧ (∀ e', lk s.dl k = some e' → e' = e)
  /-- not amended: the dirty map has no key the read map lacks -/
  sub : s.amended = false → ∀ k, lk s.read k = none → lk s.dl k = none
  /-- expunged entries are not stored in the dirty map -/
  dlive : ∀ k e, lk s.dl k = some e → s.slot e ≠ .expunged

/-- both maps empty (the zero Map, and the Map after `Clear`) -/
theorem wf_empty {s : St} (hf : s.fault = false) (hr : s.read = []) (hd : s.dl = []) (ha : s.amended = false) :
    WF s := by
  constructor
  · exact hf
  · rw [hr]; exact List.nodup_nil
  · rw [hd]; exact List.nodup_nil
  · intro k e hh; rw [hr, hd] at hh; rcases hh with hh | hh <;> cases hh
  · intro k _ e hh; rw [hr, hd] at hh; rcases hh with hh | hh <;> cases hh
  · intro _; refine ⟨ha, fun k e hh => ?_⟩; rw [hr] at hh; cases hh
  · intro _ k e hh; rw [hr] at hh; cases hh
  · intro _ k _; rw [hd]; rfl
  · intro k e hh; rw [hd] at hh; cases hh

theorem wf_init : WF {} := wf_empty rfl rfl rfl rfl

theorem WF.ent_inj {s : St} (h : WF s) {k k' : Int} {e : Nat}
    (h1 : s.ent k = some e) (h2 : s.ent k' = some e) : k = k' :=
  h.inj k k' e (ent_some h1) (ent_some h2)

theorem WF.ent_live {s : St} (h : WF s) {k : Int} {e : Nat} (h1 : s.ent k = some e)
    (hr : lk s.read k = none) : s.slot e ≠ .expunged :=
  (ent_some h1).elim (fun h2 => by rw [hr] at h2; cases h2) (h.dlive k e)

theorem WF.dirty_of_amended {s : St} (h : WF s) (ha : s.amended = true) : s.dirty ≠ none := by
  intro hd; rw [(h.nilDirty hd).1] at ha; cases ha

theorem WF.dirty_of_expunged {s : St} (h : WF s) {k : Int} {e : Nat} (hr : lk s.read k = some e)
    (he : s.slot e = .expunged) : s.dirty ≠ none :=
  fun hd => (h.nilDirty hd).2 k e hr he

/-- a key that only the dirty map has is reached through the dirty map: the read map is amended -/
theorem WF.ent_of_dirty {s : St} (h : WF s) {k : Int} {e : Nat} (hr : lk s.read k = none)
    (hd : lk s.dl k = some e) : s.amended = true ∧ s.ent k = some e := by
  cases ha : s.amended with
  | true => exact ⟨rfl, (ent_of_amended hr ha).trans hd⟩
  | false => rw [h.sub ha k hr] at hd; cases hd

theorem abs_of_miss {s : St} {k : Int} (hr : lk s.read k = none) (hd : lk s.dl k = none) : s.abs k = none := by
  apply abs_of_ent_none; unfold St.ent; rw [hr, hd]; exact ite_self _

theorem abs_of_not_amended {s : St} {k : Int} (hr : lk s.read k = none) (ha : s.amended = false) :
    s.abs k = none :=
  abs_of_ent_none ((ent_of_not_amended ha k).trans hr)

theorem slot_setSlot (s : St) (e : Nat) (x : Slot) (i : Nat) :
    (s.setSlot e x).slot i = if i = e then x else s.slot i := rfl

theorem wf_setSlot {s : St} (h : WF s) {e : Nat} {x : Slot} (h1 : s.slot e ≠ .expunged)
    (h2 : x ≠ .expunged) : WF (s.setSlot e x) := by
  have hx : ∀ i, (s.setSlot e x).slot i = .expunged ↔ s.slot i = .expunged := by
    intro i; rw [slot_setSlot]; split
    · rename_i hi; rw [hi]; exact ⟨fun a => absurd a h2, fun a => absurd a h1⟩
    · rfl
  exact ⟨h.nofault, h.rnd, h.dnd, h.bound, h.inj,
    fun hd => ⟨(h.nilDirty hd).1, fun k i hk hs => (h.nilDirty hd).2 k i hk ((hx i).1 hs)⟩,
    fun hd k i hk => ⟨(hx i).trans (h.link hd k i hk).1, (h.link hd k i hk).2⟩,
    h.sub, fun k i hk hs => h.dlive k i hk ((hx i).1 hs)⟩

theorem ent_setSlot (s : St) (e : Nat) (x : Slot) (k : Int) : (s.setSlot e x).ent k = s.ent k := rfl

theorem abs_setSlot_apply (s : St) (e : Nat) (x : Slot) (k : Int) :
    (s.setSlot e x).abs k = if s.ent k = some e then x.load else s.abs k := by
  rw [abs_eq, abs_eq, ent_setSlot]
  cases s.ent k with
  | none => rfl
  | some e' =>
    show (if e' = e then x else s.slot e').load = _
    by_cases he : e' = e
    · rw [if_pos he, if_pos (congrArg some he)]
    · rw [if_neg he, if_neg fun hh => he (Option.some.inj hh)]; rfl

theorem WF.abs_setSlot {s : St} (h : WF s) {k : Int} {e : Nat} (hk : s.ent k = some e) (x : Slot) :
    (s.setSlot e x).abs = upd s.abs k x.load := by
  funext k'; rw [abs_setSlot_apply]; unfold upd
  by_cases hkk : k' = k
  · rw [if_pos hkk, if_pos (hkk ▸ hk)]
  · rw [if_neg hkk, if_neg fun he => hkk (h.ent_inj he hk)]

end EIO.SMap
