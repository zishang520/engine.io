import EIO.Model.WT
import EIO.Spec.WT
/-
The frame reader model: what each step does on well-formed input (equations of
`header`, `advanceFrame`, `readMsg`, `readAll`, `nextReader`, then whole frames
and whole streams), and what no input can make it do (`advanceFrame_cfg`, the
`_bounded` lemmas).
-/
namespace EIO.WT
open EIO

theorem kindBit_lt (k : Kind) : Spec.kindBit k = 0 ∨ Spec.kindBit k = 128 := by
  cases k
  · exact .inl rfl
  · exact .inr rfl

theorem byte_split (b n : Nat) (hb : b < 2) (h : n < 128) :
    (UInt8.ofNat (128 * b + n)).toNat / 128 % 2 = b ∧ (UInt8.ofNat (128 * b + n)).toNat % 128 = n := by
  have : 128 * b + n < 2 ^ 8 := Nat.lt_of_lt_of_le (Nat.add_lt_add_left h _) (Nat.mul_le_mul_left 128 hb)
  rw [UInt8.toNat_ofNat', Nat.mod_eq_of_lt this, Nat.mul_add_div (by decide), Nat.mul_add_mod,
    Nat.div_eq_of_lt h, Nat.mod_eq_of_lt h, Nat.add_zero, Nat.mod_eq_of_lt hb]
  exact ⟨rfl, rfl⟩

theorem header_byte (k : Kind) (n : Nat) (h : n < 128) :
    kindOfByte (UInt8.ofNat (Spec.kindBit k + n)) = k ∧
    (UInt8.ofNat (Spec.kindBit k + n)).toNat % 128 = n := by
  cases k
  · exact ⟨if_neg fun e => Nat.zero_ne_one ((byte_split 0 n (by decide) h).1.symm.trans e),
      (byte_split 0 n (by decide) h).2⟩
  · exact ⟨if_pos (byte_split 1 n (by decide) h).1, (byte_split 1 n (by decide) h).2⟩

theorem RConn.read_append (c : RConn) {p rest : Bytes} {n : Nat} (h : c.input = p ++ rest)
    (hn : p.length = n) : c.read n = .ok (p, { c with input := rest }) := by
  subst hn
  unfold RConn.read
  rw [if_pos (h ▸ List.length_append ▸ Nat.le_add_right _ _), h, List.take_left, List.drop_left]

theorem RConn.read_cons (c : RConn) {b : UInt8} {rest : Bytes} (h : c.input = b :: rest) :
    c.read 1 = .ok ([b], { c with input := rest }) :=
  c.read_append (p := [b]) h rfl

/-- Failing or not, `read`, `skip` and `header` hand back `c` with another `input` (and `rem`) and nothing else
    changed: all that `advanceFrame_cfg` claims then holds by `rfl`. -/
theorem RConn.read_shape (c : RConn) (n : Nat) :
    (∃ p i, c.read n = .ok (p, { c with input := i })) ∨ c.read n = .error c.tail.peekErr := by
  unfold RConn.read
  by_cases h : n ≤ c.input.length
  · rw [if_pos h]; exact .inl ⟨_, _, rfl⟩
  · rw [if_neg h]; exact .inr rfl

theorem RConn.skip_shape (c : RConn) :
    (∃ i, c.skip = .ok { c with input := i }) ∨ ∃ e i, c.skip = .error (e, { c with input := i }) := by
  unfold RConn.skip
  by_cases h : c.rem > 0
  · rw [if_pos h]
    by_cases h' : c.input.length < c.rem
    · rw [if_pos h']; exact .inr ⟨_, _, rfl⟩
    · rw [if_neg h']; exact .inl ⟨_, rfl⟩
  · rw [if_neg h]; exact .inl ⟨c.input, rfl⟩

theorem RConn.header_shape (c : RConn) :
    (∃ k i r, c.header = .ok (k, { c with input := i, rem := r })) ∨
    ∃ e i r, c.header = .error (e, { c with input := i, rem := r }) := by
  unfold RConn.header RConn.readFailState
  obtain ⟨p, i, h1⟩ | h1 := c.read_shape 1 <;> rw [h1] <;> dsimp only
  · generalize (p.headD 0).toNat % 128 = r0
    by_cases h126 : r0 = 126
    · rw [if_pos h126]
      obtain ⟨p2, i2, h2⟩ | h2 := RConn.read_shape { c with input := i, rem := r0 } 2 <;> rw [h2]
      · exact .inl ⟨_, _, _, rfl⟩
      · exact .inr ⟨_, _, _, rfl⟩
    · rw [if_neg h126]
      by_cases h127 : r0 = 127
      · rw [if_pos h127]
        obtain ⟨p8, i8, h8⟩ | h8 := RConn.read_shape { c with input := i, rem := r0 } 8 <;> rw [h8] <;>
          dsimp only
        · by_cases hm : unbe p8 ≥ 2 ^ 63
          · rw [if_pos hm]; exact .inr ⟨_, _, _, rfl⟩
          · rw [if_neg hm]; exact .inl ⟨_, _, _, rfl⟩
        · exact .inr ⟨_, _, _, rfl⟩
      · rw [if_neg h127]; exact .inl ⟨_, _, _, rfl⟩
  · exact .inr ⟨_, _, _, rfl⟩

/-- fields no step of `advanceFrame` ever changes -/
structure RConn.SameCfg (c c' : RConn) : Prop where
  tail : c'.tail = c.tail
  limit : c'.limit = c.limit
  err : c'.err = c.err
  errCount : c'.errCount = c.errCount
  cur : c'.cur = c.cur
  closeFails : c'.closeFails = c.closeFails

theorem RConn.checkLimit_ok (c : RConn) (k : Kind) {l : Nat} (hl : c.rlen + c.rem = l)
    (h : c.limit = 0 ∨ l ≤ c.limit) : c.checkLimit k = .frame k { c with rlen := l } := by
  subst hl
  exact if_neg fun ⟨h0, hgt⟩ => h.elim (Nat.ne_of_gt h0) (Nat.not_le_of_gt hgt)

theorem RConn.checkLimit_over (c : RConn) (k : Kind) {l : Nat} (hl : c.rlen + c.rem = l)
    (h0 : c.limit > 0) (h : l > c.limit) :
    c.checkLimit k = .fail (if c.closeFails then .closeFailed else .readLimit)
      { c with rlen := l, closes := c.closes ++ [1009] } := by
  subst hl
  unfold RConn.checkLimit
  rw [if_pos ⟨h0, h⟩]
  cases c.closeFails <;> rfl

/-- `advanceFrame` never touches tail, limit, err, errCount, cur, closeFails;
    it closes the session (code 1009) only when it reports the limit error of
    step 4, and a frame it hands out is within a positive limit -/
theorem RConn.advanceFrame_cfg (c : RConn) :
    (∀ k c', c.advanceFrame = .frame k c' →
        c.SameCfg c' ∧ c'.closes = c.closes ∧ (c.limit > 0 → c'.rlen ≤ c.limit) ∧
        c'.rlen = c.rlen + c'.rem) ∧
    (∀ e c', c.advanceFrame = .fail e c' → c.SameCfg c' ∧
        (c'.closes = c.closes ∨ c'.closes = c.closes ++ [1009])) := by
  have same : ∀ i r l cl, c.SameCfg { c with input := i, rem := r, rlen := l, closes := cl } :=
    fun _ _ _ _ => ⟨rfl, rfl, rfl, rfl, rfl, rfl⟩
  unfold RConn.advanceFrame
  obtain ⟨i, hs⟩ | ⟨e, i, hs⟩ := c.skip_shape <;> rw [hs] <;> dsimp only
  · obtain ⟨k, i, r, hh⟩ | ⟨e, i, r, hh⟩ := RConn.header_shape { c with input := i } <;> rw [hh] <;>
      dsimp only
    · by_cases hl : c.limit = 0 ∨ c.rlen + r ≤ c.limit
      · rw [RConn.checkLimit_ok { c with input := i, rem := r } k rfl hl]
        exact ⟨fun _ _ h => (Adv.frame.inj h).2 ▸
          ⟨same .., rfl, fun h0 => hl.resolve_left (Nat.ne_of_gt h0), rfl⟩, fun _ _ => nofun⟩
      · rw [RConn.checkLimit_over { c with input := i, rem := r } k rfl
          (Nat.pos_of_ne_zero fun h => hl (.inl h)) (Nat.lt_of_not_le fun h => hl (.inr h))]
        exact ⟨fun _ _ => nofun, fun _ _ h => (Adv.fail.inj h).2 ▸ ⟨same .., .inr rfl⟩⟩
    · exact ⟨fun _ _ => nofun, fun _ _ h => (Adv.fail.inj h).2 ▸ ⟨same .., .inl rfl⟩⟩
  · exact ⟨fun _ _ => nofun, fun _ _ h => (Adv.fail.inj h).2 ▸ ⟨same .., .inl rfl⟩⟩

theorem RConn.header_ext64 (c : RConn) (k : Kind) (p rest : Bytes) (hp : p.length = 8)
    (hin : c.input = UInt8.ofNat (Spec.kindBit k + 127) :: (p ++ rest)) :
    c.header = if unbe p ≥ 2 ^ 63 then .error (.readLimit, { c with input := rest, rem := 127 })
      else .ok (k, { c with input := rest, rem := unbe p }) := by
  obtain ⟨hk, hb⟩ := header_byte k 127 (by decide)
  unfold RConn.header
  rw [c.read_cons hin]
  simp only [List.headD_cons, hk, hb, if_neg (by decide : ¬ 127 = 126), if_true]
  rw [RConn.read_append _ (p := p) (rest := rest) rfl hp]

theorem RConn.header_ext16 (c : RConn) (k : Kind) (p rest : Bytes) (hp : p.length = 2)
    (hin : c.input = UInt8.ofNat (Spec.kindBit k + 126) :: (p ++ rest)) :
    c.header = .ok (k, { c with input := rest, rem := unbe p }) := by
  obtain ⟨hk, hb⟩ := header_byte k 126 (by decide)
  unfold RConn.header
  rw [c.read_cons hin]
  simp only [List.headD_cons, hk, hb, if_true]
  rw [RConn.read_append _ (p := p) (rest := rest) rfl hp]

theorem RConn.header_short (c : RConn) (k : Kind) (n : Nat) (rest : Bytes) (hn : n < 126)
    (hin : c.input = UInt8.ofNat (Spec.kindBit k + n) :: rest) :
    c.header = .ok (k, { c with input := rest, rem := n }) := by
  obtain ⟨hk, hb⟩ := header_byte k n (Nat.lt_trans hn (by decide))
  unfold RConn.header
  rw [c.read_cons hin]
  simp only [List.headD_cons, hk, hb, if_neg (Nat.ne_of_lt hn),
    if_neg (Nat.ne_of_lt (Nat.lt_succ_of_lt hn))]

theorem RConn.header_nil (c : RConn) (hin : c.input = []) :
    c.header = .error (c.tail.peekErr, { c with input := [] }) := by
  unfold RConn.header RConn.read
  rw [hin]
  rfl

theorem RConn.header_ok (c : RConn) (f : Spec.LenForm) (k : Kind) (n : Nat) (rest : Bytes)
    (hin : c.input = Spec.headerWith f k n ++ rest) (hfit : f.fits n) :
    c.header = .ok (k, { c with input := rest, rem := n }) := by
  cases f with
  | short => exact c.header_short k n rest hfit hin
  | ext16 =>
    rw [c.header_ext16 k (be 2 n) rest (be_length 2 n) hin, unbe_be_of_lt 2 n hfit]
  | ext64 =>
    rw [c.header_ext64 k (be 8 n) rest (be_length 8 n) hin,
      unbe_be_of_lt 8 n (Nat.lt_trans hfit (by decide))]
    exact if_neg (Nat.not_le_of_gt hfit)

theorem RConn.skip_none (c : RConn) (hrem : c.rem = 0) : c.skip = .ok c :=
  if_neg (hrem ▸ Nat.lt_irrefl 0)

theorem RConn.advanceFrame_boundary (c : RConn) (hrem : c.rem = 0) :
    c.advanceFrame = match c.header with
      | .error (e, c) => .fail e c
      | .ok (k, c) => c.checkLimit k := by
  unfold RConn.advanceFrame
  rw [c.skip_none hrem]
  rfl

theorem RConn.advanceFrame_header (c : RConn) (f : Spec.LenForm) (k : Kind) (n : Nat) (rest : Bytes)
    (hrem : c.rem = 0) (hin : c.input = Spec.headerWith f k n ++ rest) (hfit : f.fits n) :
    c.advanceFrame = RConn.checkLimit k { c with input := rest, rem := n } := by
  rw [c.advanceFrame_boundary hrem, c.header_ok f k n rest hin hfit]

theorem RConn.advanceFrame_ok (c : RConn) (f : Spec.LenForm) (k : Kind) (n : Nat) (rest : Bytes)
    (hrem : c.rem = 0) (hlen : c.rlen = 0) (hin : c.input = Spec.headerWith f k n ++ rest)
    (hfit : f.fits n) (hlim : c.limit = 0 ∨ n ≤ c.limit) :
    c.advanceFrame = .frame k { c with input := rest, rem := n, rlen := n } :=
  (c.advanceFrame_header f k n rest hrem hin hfit).trans
    (RConn.checkLimit_ok _ k (hlen ▸ Nat.zero_add n) hlim)

theorem StreamEnd.peekErr_eq (t : StreamEnd) :
    (if t.rawErr = .eof then .unexpectedEOF else t.rawErr) = t.peekErr := by
  cases t <;> rfl

theorem RConn.readMsg_stale (c : RConn) (n : Nat) {mine : Bool} (h : ¬ (mine = true ∧ c.cur = true)) :
    c.readMsg n mine = ⟨[], some .eof, c⟩ :=
  if_pos h

theorem RConn.readMsg_failed (c : RConn) (n : Nat) (hcur : c.cur = true) {e : RErr} (herr : c.err = some e) :
    c.readMsg n = ⟨[], some (if e = .eof then .unexpectedEOF else e), c⟩ := by
  unfold RConn.readMsg
  rw [if_neg fun h => h ⟨rfl, hcur⟩, herr]

theorem RConn.readMsg_done (c : RConn) (n : Nat) (hcur : c.cur = true) (herr : c.err = none)
    (hrem : c.rem = 0) : c.readMsg n = ⟨[], some .eof, { c with cur := false }⟩ := by
  unfold RConn.readMsg
  rw [if_neg fun h => h ⟨rfl, hcur⟩, herr]
  exact if_neg (hrem ▸ Nat.lt_irrefl 0)

theorem RConn.readMsg_dry (c : RConn) (n : Nat) (hcur : c.cur = true) (herr : c.err = none)
    (hrem : 0 < c.rem) (hin : c.input = []) :
    c.readMsg n = ⟨[], some c.tail.peekErr, { c with err := some c.tail.peekErr }⟩ := by
  unfold RConn.readMsg
  rw [if_neg fun h => h ⟨rfl, hcur⟩, herr]
  dsimp only
  rw [if_pos hrem, if_pos (List.isEmpty_iff.mpr hin), StreamEnd.peekErr_eq]

/-- a `Read` that finds bytes of its frame on the stream hands out the next `j` of them, at least one if it was
    offered room -/
theorem RConn.readMsg_take (c : RConn) (n : Nat) (hcur : c.cur = true) (herr : c.err = none)
    (hrem : 0 < c.rem) (hin : c.input ≠ []) :
    ∃ j, j ≤ n ∧ j ≤ c.rem ∧ j ≤ c.input.length ∧ (0 < n → 0 < j) ∧
      c.readMsg n = ⟨c.input.take j, none, { c with input := c.input.drop j, rem := c.rem - j }⟩ := by
  refine ⟨min (min n c.rem) c.input.length, Nat.le_trans (Nat.min_le_left _ _) (Nat.min_le_left _ _),
    Nat.le_trans (Nat.min_le_left _ _) (Nat.min_le_right _ _), Nat.min_le_right _ _,
    fun hn => Nat.lt_min.mpr ⟨Nat.lt_min.mpr ⟨hn, hrem⟩, List.length_pos_iff.mpr hin⟩, ?_⟩
  unfold RConn.readMsg
  rw [if_neg fun h => h ⟨rfl, hcur⟩, herr]
  dsimp only
  rw [if_pos hrem, if_neg (Bool.eq_false_iff.mp (List.isEmpty_eq_false_iff.mpr hin)), List.length_take,
    ← List.take_eq_take_min, ← List.drop_eq_drop_min]

/-- `ReadAll` on the reader just handed out returns what the stream holds of the frame, whatever the size of the
    buffers it offers, and fails exactly when that is less than the header declared -/
theorem RConn.readAllLoop_eq (chunk : Nat) (hchunk : 0 < chunk) (fuel : Nat) :
    ∀ (c : RConn) (acc : Bytes), c.rem < fuel → c.cur = true → c.err = none →
      RConn.readAllLoop fuel c chunk acc =
        (acc ++ c.input.take c.rem,
         if c.input.length < c.rem then
           (some c.tail.peekErr,
            { c with input := [], rem := c.rem - c.input.length, err := some c.tail.peekErr })
         else (none, { c with input := c.input.drop c.rem, rem := 0, cur := false })) := by
  induction fuel with
  | zero => intro _ _ hf; exact absurd hf (Nat.not_lt_zero _)
  | succ fuel ih =>
    intro c acc hf hcur herr
    unfold RConn.readAllLoop
    by_cases hrem : c.rem = 0
    · rw [c.readMsg_done chunk hcur herr hrem, hrem, if_neg (Nat.not_lt_zero _)]
      rfl
    · have hpos := Nat.pos_of_ne_zero hrem
      by_cases hin : c.input = []
      · rw [c.readMsg_dry chunk hcur herr hpos hin, if_pos (hin ▸ hpos : c.input.length < c.rem), hin, List.take_nil]
        -- `peekErr` is never `.eof`, which the loop would take for the end of the message
        cases c.tail <;> rfl
      · obtain ⟨j, -, hjr, hji, hj0, hread⟩ := c.readMsg_take chunk hcur herr hpos hin
        rw [hread]
        dsimp only
        rw [ih { c with input := c.input.drop j, rem := c.rem - j } _
          (Nat.lt_of_lt_of_le (Nat.sub_lt hpos (hj0 hchunk)) (Nat.le_of_lt_succ hf)) hcur herr]
        dsimp only
        -- the bytes handed out so far and the rest of the frame are consecutive
        rw [List.append_assoc, ← List.take_add, Nat.add_sub_of_le hjr, List.length_drop]
        by_cases hs : c.input.length < c.rem
        · rw [if_pos hs, if_pos (Nat.sub_lt_sub_right hji hs), Nat.sub_sub_sub_cancel_right hji]
        · rw [if_neg hs, if_neg (Nat.not_lt.mpr (Nat.sub_le_sub_right (Nat.not_lt.mp hs) j)), List.drop_drop,
            Nat.add_sub_of_le hjr]

theorem RConn.readAll_eq (c : RConn) (hcur : c.cur = true) (herr : c.err = none) (chunk : Nat := 512)
    (hchunk : 0 < chunk := by decide) :
    c.readAll chunk =
      (c.input.take c.rem,
       if c.input.length < c.rem then
         (some c.tail.peekErr, { c with input := [], rem := c.rem - c.input.length, err := some c.tail.peekErr })
       else (none, { c with input := c.input.drop c.rem, rem := 0, cur := false })) :=
  RConn.readAllLoop_eq chunk hchunk _ c [] (Nat.lt_add_of_pos_right (by decide)) hcur herr

theorem RConn.nextReader_of_err (c : RConn) {e : RErr} (herr : c.err = some e) :
    c.nextReader =
      if c.errCount + 1 ≥ errGuard then
        .panic { c with cur := false, rlen := 0, errCount := c.errCount + 1 }
      else .error e { c with cur := false, rlen := 0, errCount := c.errCount + 1 } := by
  unfold RConn.nextReader
  dsimp only
  rw [herr]

theorem RConn.nextReader_of_frame (c : RConn) (herr : c.err = none) {k : Kind} {c' : RConn}
    (h : RConn.advanceFrame { c with cur := false, rlen := 0 } = .frame k c') :
    c.nextReader = .reader k { c' with cur := true } := by
  unfold RConn.nextReader
  dsimp only
  rw [h, herr]

theorem RConn.nextReader_of_fail (c : RConn) (herr : c.err = none) {e : RErr} {c' : RConn}
    (h : RConn.advanceFrame { c with cur := false, rlen := 0 } = .fail e c') :
    c.nextReader =
      if c'.errCount + 1 ≥ errGuard then .panic { c' with err := some e, errCount := c'.errCount + 1 }
      else .error e { c' with err := some e, errCount := c'.errCount + 1 } := by
  unfold RConn.nextReader
  dsimp only
  rw [h, herr]

/-- `ReadMessage` at a frame boundary, on a well-formed header (any length form) within the limit: the message when
    its payload is on the stream, otherwise what there is of it together with the error of the stream's end -/
theorem RConn.readMessage_frame (c : RConn) (f : Spec.LenForm) (k : Kind) (n : Nat) (rest : Bytes)
    (herr : c.err = none) (hrem : c.rem = 0) (hin : c.input = Spec.headerWith f k n ++ rest) (hfit : f.fits n)
    (hlim : c.limit = 0 ∨ n ≤ c.limit) :
    c.readMessage =
      if rest.length < n then
        .partialMsg k rest c.tail.peekErr
          { c with input := [], rem := n - rest.length, rlen := n, cur := true, err := some c.tail.peekErr }
      else .msg ⟨k, rest.take n⟩ { c with input := rest.drop n, rem := 0, rlen := n, cur := false } := by
  unfold RConn.readMessage
  rw [c.nextReader_of_frame herr (RConn.advanceFrame_ok _ f k n rest hrem rfl hin hfit hlim)]
  dsimp only
  rw [RConn.readAll_eq { c with input := rest, rem := n, rlen := n, cur := true } rfl herr]
  dsimp only
  by_cases hs : rest.length < n
  · rw [if_pos hs, if_pos hs, List.take_of_length_le (Nat.le_of_lt hs)]
  · rw [if_neg hs, if_neg hs]

theorem RConn.readMessage_ok (c : RConn) (f : Spec.LenForm) (m : Msg) (rest : Bytes)
    (herr : c.err = none) (hrem : c.rem = 0)
    (hin : c.input = Spec.encodeWith f m ++ rest) (hfit : f.fits m.data.length)
    (hlim : c.limit = 0 ∨ m.data.length ≤ c.limit) :
    c.readMessage = .msg m { c with input := rest, rem := 0, rlen := m.data.length, cur := false } := by
  rw [c.readMessage_frame f m.kind m.data.length (m.data ++ rest) herr hrem (hin.trans (List.append_assoc ..)) hfit
    hlim, if_neg (List.length_append ▸ Nat.not_lt.mpr (Nat.le_add_right _ _)), List.take_left, List.drop_left]

theorem RConn.readMessage_end (c : RConn) (herr : c.err = none) (hrem : c.rem = 0)
    (hin : c.input = []) (hg : c.errCount + 1 < errGuard) :
    c.readMessage = .error c.tail.peekErr
      { c with cur := false, rlen := 0, err := some c.tail.peekErr, errCount := c.errCount + 1 } := by
  have hadv : RConn.advanceFrame { c with cur := false, rlen := 0 } =
      .fail c.tail.peekErr { c with cur := false, rlen := 0 } := by
    rw [RConn.advanceFrame_boundary { c with cur := false, rlen := 0 } hrem,
      RConn.header_nil { c with cur := false, rlen := 0 } hin, hin]
  unfold RConn.readMessage
  rw [c.nextReader_of_fail herr hadv, if_neg (Nat.not_le_of_gt hg)]

theorem encodeAll_cons (fm : Spec.LenForm × Msg) (fms : List (Spec.LenForm × Msg)) :
    Spec.encodeAll (fm :: fms) = Spec.encodeWith fm.1 fm.2 ++ Spec.encodeAll fms := rfl

theorem RConn.readMessages_ok (fms : List (Spec.LenForm × Msg)) :
    ∀ (fuel : Nat) (c : RConn) (acc : List Msg), fms.length < fuel →
      c.err = none → c.rem = 0 → c.errCount + 1 < errGuard →
      c.input = Spec.encodeAll fms →
      (∀ fm ∈ fms, fm.1.fits fm.2.data.length ∧ (c.limit = 0 ∨ fm.2.data.length ≤ c.limit)) →
      (RConn.readMessages fuel c acc).1 = acc ++ fms.map (·.2) ∧
      (RConn.readMessages fuel c acc).2.1 = some c.tail.peekErr := by
  induction fms with
  | nil =>
    intro fuel c acc hf herr hrem hg hin _
    obtain ⟨fuel, rfl⟩ := Nat.exists_eq_succ_of_ne_zero (Nat.ne_of_gt hf)
    unfold RConn.readMessages
    rw [c.readMessage_end herr hrem hin hg]
    exact ⟨(List.append_nil acc).symm, rfl⟩
  | cons fm rest ih =>
    intro fuel c acc hf herr hrem hg hin hall
    obtain ⟨fuel, rfl⟩ := Nat.exists_eq_succ_of_ne_zero (Nat.ne_of_gt (Nat.zero_lt_of_lt hf))
    obtain ⟨hfit, hlim⟩ := hall fm List.mem_cons_self
    unfold RConn.readMessages
    rw [c.readMessage_ok fm.1 fm.2 _ herr hrem (hin.trans (encodeAll_cons fm rest)) hfit hlim]
    have := ih fuel { c with input := Spec.encodeAll rest, rem := 0, rlen := fm.2.data.length, cur := false }
      (acc ++ [fm.2]) (Nat.lt_of_succ_lt_succ hf) herr rfl hg rfl
      fun x hx => hall x (List.mem_cons_of_mem _ hx)
    rwa [List.append_assoc] at this

theorem encodeAll_length_ge (fms : List (Spec.LenForm × Msg)) :
    fms.length ≤ (Spec.encodeAll fms).length := by
  induction fms with
  | nil => exact Nat.zero_le _
  | cons fm rest ih =>
    have h1 : 1 ≤ (Spec.encodeWith fm.1 fm.2).length := by
      unfold Spec.encodeWith Spec.headerWith
      cases fm.1 <;> exact Nat.succ_le_succ (Nat.zero_le _)
    rw [encodeAll_cons, List.length_append, List.length_cons, Nat.add_comm]
    exact Nat.add_le_add h1 ih

/-- one `Read` call, whatever the state of the connection: at most the bytes asked for, at most the bytes the frame
    still has, taken in order from the stream; `rem` shrinks by that count -/
theorem RConn.readMsg_bounded (c : RConn) (n : Nat) (mine : Bool) :
    (c.readMsg n mine).data.length ≤ n ∧ (c.readMsg n mine).data.length ≤ c.rem ∧
    (c.readMsg n mine).data = c.input.take (c.readMsg n mine).data.length ∧
    (c.readMsg n mine).c.input = c.input.drop (c.readMsg n mine).data.length ∧
    (c.readMsg n mine).c.rem = c.rem - (c.readMsg n mine).data.length := by
  -- every case but one returns no data and leaves `input` and `rem` alone
  have nodata : ∀ (e : Option RErr) (c' : RConn), c'.input = c.input → c'.rem = c.rem →
      let r : ReadRes := ⟨[], e, c'⟩
      r.data.length ≤ n ∧ r.data.length ≤ c.rem ∧ r.data = c.input.take r.data.length ∧
      r.c.input = c.input.drop r.data.length ∧ r.c.rem = c.rem - r.data.length :=
    fun _ _ hi hr => ⟨Nat.zero_le _, Nat.zero_le _, rfl, hi, hr⟩
  by_cases h : mine = true ∧ c.cur = true
  · obtain ⟨rfl, hcur⟩ := h
    cases herr : c.err with
    | some e => rw [c.readMsg_failed n hcur herr]; exact nodata _ _ rfl rfl
    | none =>
      by_cases hrem : c.rem = 0
      · rw [c.readMsg_done n hcur herr hrem]; exact nodata _ _ rfl rfl
      · by_cases hin : c.input = []
        · rw [c.readMsg_dry n hcur herr (Nat.pos_of_ne_zero hrem) hin]; exact nodata _ _ rfl rfl
        · obtain ⟨j, hjn, hjr, hji, -, hread⟩ := c.readMsg_take n hcur herr (Nat.pos_of_ne_zero hrem) hin
          rw [hread]
          dsimp only
          rw [List.length_take_of_le hji]
          exact ⟨hjn, hjr, rfl, rfl, rfl⟩
  · rw [c.readMsg_stale n h]; exact nodata _ _ rfl rfl

theorem RConn.readAllLoop_bounded (chunk fuel : Nat) : ∀ (c : RConn) (acc : Bytes),
    (RConn.readAllLoop fuel c chunk acc).1.length ≤ acc.length + c.rem := by
  induction fuel with
  | zero => intro c acc; exact Nat.le_add_right _ _
  | succ fuel ih =>
    intro c acc
    obtain ⟨-, h2, -, -, h4⟩ := c.readMsg_bounded chunk true
    have hacc : (acc ++ (c.readMsg chunk).data).length ≤ acc.length + c.rem :=
      List.length_append ▸ Nat.add_le_add_left h2 _
    unfold RConn.readAllLoop
    dsimp only
    split
    · exact hacc
    · exact hacc
    · have := ih (c.readMsg chunk).c (acc ++ (c.readMsg chunk).data)
      rwa [List.length_append, h4, Nat.add_assoc, Nat.add_sub_of_le h2] at this

end EIO.WT
