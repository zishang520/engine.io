import EIO.Model.WT
import EIO.Spec.WT
/-
The frame writer model. `MW.Open w c k d` says that the writer `w` was opened on
connection `c` for a message of kind `k` and has buffered `d`; every operation
of a message writer extends `d` by what it was given, and `flushFinal` then
adds the one frame `Spec.encode ⟨k, d ++ extra⟩` to what `c` had written.
-/
namespace EIO.WT
open EIO

theorem copyInto_fst (dst : Bytes) (a : Nat) (src : Bytes) :
    (copyInto dst a src).1 = dst.take a ++ src.take (copyInto dst a src).2 ++
      dst.drop (a + (copyInto dst a src).2) := rfl

theorem copyInto_snd_le (dst : Bytes) (a : Nat) (src : Bytes) : (copyInto dst a src).2 ≤ src.length :=
  Nat.min_le_right _ _

theorem copyInto_snd_fits (dst : Bytes) (a : Nat) (src : Bytes) (ha : a ≤ dst.length) :
    a + (copyInto dst a src).2 ≤ dst.length :=
  Nat.add_le_of_le_sub' ha (Nat.min_le_left _ _)

theorem copyInto_snd_of_fits (dst : Bytes) (a : Nat) (src : Bytes) (h : a + src.length ≤ dst.length) :
    (copyInto dst a src).2 = src.length :=
  Nat.min_eq_right (Nat.le_sub_of_add_le' h)

theorem copyInto_length (dst : Bytes) (a : Nat) (src : Bytes) (ha : a ≤ dst.length) :
    (copyInto dst a src).1.length = dst.length := by
  rw [copyInto_fst, List.length_append, List.length_append, List.length_take_of_le ha,
    List.length_take_of_le (copyInto_snd_le dst a src), List.length_drop]
  exact Nat.add_sub_of_le (copyInto_snd_fits dst a src ha)

theorem take_copyInto (dst : Bytes) (a : Nat) (src : Bytes) (ha : a ≤ dst.length) :
    (copyInto dst a src).1.take (a + (copyInto dst a src).2) =
      dst.take a ++ src.take (copyInto dst a src).2 := by
  rw [copyInto_fst]
  exact List.take_left' (by
    rw [List.length_append, List.length_take_of_le ha, List.length_take_of_le (copyInto_snd_le dst a src)])

theorem drop_copyInto_of_end (dst : Bytes) (a : Nat) (src : Bytes) (h : a + src.length = dst.length) :
    (copyInto dst a src).1.drop a = src := by
  rw [copyInto_fst, copyInto_snd_of_fits _ _ _ (Nat.le_of_eq h), h, List.drop_length, List.append_nil,
    List.take_length]
  exact List.drop_left' (List.length_take_of_le (h ▸ Nat.le_add_right a _))

theorem typeBit_text : typeBit .text = 0 := by decide
theorem typeBit_binary : typeBit .binary = 128 := by decide

theorem typeBit_eq (k : Kind) : typeBit k = Spec.kindBit k := by
  cases k
  · exact typeBit_text
  · exact typeBit_binary

theorem or_kindBit (n : Nat) (h : n < 128) (k : Kind) : n ||| Spec.kindBit k = Spec.kindBit k + n := by
  cases k
  · exact (Nat.or_zero n).trans (Nat.zero_add n).symm
  · exact (Nat.or_comm _ _).trans (Nat.two_pow_add_eq_or_of_lt (i := 7) h 1).symm

theorem minimal_short {n : Nat} (h : n < 126) : Spec.minimal n = .short := if_pos h

theorem minimal_ext16 {n : Nat} (h : 126 ≤ n) (h' : n < 65536) : Spec.minimal n = .ext16 :=
  (if_neg (Nat.not_lt.mpr h)).trans (if_pos h')

theorem minimal_ext64 {n : Nat} (h : 65536 ≤ n) : Spec.minimal n = .ext64 :=
  (if_neg (Nat.not_lt.mpr (Nat.le_trans (by decide) h))).trans (if_neg (Nat.not_lt.mpr h))

/-- the header area after `flushFrame` starts, from `framePos`, with exactly the
    specified header; the area keeps its size -/
theorem frameHeader_spec (hdr : Bytes) (k : Kind) (n : Nat) (h : hdr.length = 9) :
    (frameHeader hdr k n).1.drop (frameHeader hdr k n).2 = Spec.header k n ∧
    (frameHeader hdr k n).1.length = 9 := by
  -- each form is written so that it ends where the payload begins
  have hc : ∀ a src, a + src.length = 9 →
      (copyInto hdr a src).1.drop a = src ∧ (copyInto hdr a src).1.length = 9 := fun a src ha =>
    ⟨drop_copyInto_of_end hdr a src (ha.trans h.symm),
     (copyInto_length hdr a src (h ▸ ha ▸ Nat.le_add_right a _)).trans h⟩
  unfold frameHeader Spec.header
  simp only [typeBit_eq]
  by_cases h64 : n ≥ thr64
  · rw [if_pos h64, minimal_ext64 h64, or_kindBit 127 (by decide)]
    exact hc 0 _ (by rw [List.length_cons, be_length])
  · rw [if_neg h64]
    by_cases h16 : n > thr16
    · rw [if_pos h16, minimal_ext16 h16 (Nat.lt_of_not_le h64), or_kindBit 126 (by decide)]
      exact hc 6 _ (by rw [List.length_cons, be_length])
    · have hn : n < 126 := Nat.lt_of_not_le h16
      rw [if_neg h16, minimal_short hn, Nat.mod_eq_of_lt (Nat.lt_trans hn (by decide)),
        or_kindBit n (Nat.lt_trans hn (by decide))]
      exact hc 8 _ rfl

/-- invariant of an open message writer: `data` is what has been buffered -/
structure MW.Inv (w : MW) (data : Bytes) : Prop where
  hdr : w.buf.hdr.length = 9
  le : w.p ≤ w.buf.body.length
  buffered : w.buf.body.take w.p = data

theorem MW.Inv.len {w : MW} {d : Bytes} (h : w.Inv d) : d.length = w.p :=
  h.buffered ▸ List.length_take_of_le h.le

/-- every buffer a connection owns (current or pooled) has a 9-byte header area -/
structure WConn.WF (c : WConn) : Prop where
  buf : ∀ b, c.buf = some b → b.hdr.length = 9
  pool : ∀ l, c.pool = some l → ∀ b ∈ l, b.hdr.length = 9

theorem WBuf.fresh_hdr (n : Nat) : (WBuf.fresh n).hdr.length = 9 :=
  List.length_replicate

theorem WConn.WF.of_buf {c : WConn} {b : WBuf} (hb : b.hdr.length = 9) (hbuf : c.buf = some b)
    (hpool : c.pool = none) : c.WF :=
  ⟨fun _ h => Option.some.inj (hbuf.symm.trans h) ▸ hb, fun _ h => (nomatch hpool.symm.trans h)⟩

theorem WConn.WF.of_pool {c : WConn} {l : List WBuf} (hl : ∀ b ∈ l, b.hdr.length = 9)
    (hbuf : c.buf = none) (hpool : c.pool = some l) : c.WF :=
  ⟨fun _ h => (nomatch hbuf.symm.trans h), fun _ h => Option.some.inj (hpool.symm.trans h) ▸ hl⟩

/-- writer `w`, opened on the connection `c` for a message of kind `k`, has buffered `d`
    (`w.c` is `c` up to the buffer taken from the pool) -/
structure MW.Open (w : MW) (c : WConn) (k : Kind) (d : Bytes) : Prop extends MW.Inv w d where
  wf : w.c.WF
  out : w.c.out = c.out
  srv : w.c.isServer = c.isServer
  kind : w.kind = k

/-- `n := copy(buf[pos:], src)` and `pos += n`: what fits of `src` is buffered -/
theorem MW.Open.copy {w : MW} {c : WConn} {k : Kind} {d : Bytes} (h : w.Open c k d) (src : Bytes) :
    MW.Open { w with buf := { w.buf with body := (copyInto w.buf.body w.p src).1 },
                     p := w.p + (copyInto w.buf.body w.p src).2 }
      c k (d ++ src.take (copyInto w.buf.body w.p src).2) :=
  ⟨⟨h.hdr, (copyInto_length _ _ _ h.le).symm ▸ copyInto_snd_fits _ _ _ h.le,
    (take_copyInto _ _ _ h.le).trans (h.buffered ▸ rfl)⟩, h.wf, h.out, h.srv, h.kind⟩

theorem MW.Open.put {w : MW} {c : WConn} {k : Kind} {d : Bytes} (h : w.Open c k d) (src : Bytes)
    {n : Nat} (hn : src.length = n) (hfit : w.p + n ≤ w.buf.body.length) :
    MW.Open { w with buf := { w.buf with body := (copyInto w.buf.body w.p src).1 }, p := w.p + n }
      c k (d ++ src) := by
  subst hn
  have := h.copy src
  rwa [copyInto_snd_of_fits _ _ _ hfit, List.take_length] at this

theorem grow_room (len pos n : Nat) : n ≤ (if 2 * len < pos + n then pos + n else 2 * len) - pos := by
  split
  · exact Nat.le_of_eq (Nat.add_sub_cancel_left ..).symm
  · exact Nat.le_sub_of_add_le' (Nat.le_of_not_lt ‹_›)

theorem MW.Open.grow {w : MW} {c : WConn} {k : Kind} {d : Bytes} (h : w.Open c k d) (n : Nat) :
    (w.grow n).Open c k d ∧ w.p + n ≤ (w.grow n).buf.body.length := by
  have ht : (w.buf.body.take w.p).length = w.p := List.length_take_of_le h.le
  have hlen : ∀ m, (w.buf.body.take w.p ++ List.replicate m 0).length = w.p + m := fun m => by
    rw [List.length_append, ht, List.length_replicate]
  refine ⟨⟨⟨h.hdr, ?_, ?_⟩, h.wf, h.out, h.srv, h.kind⟩, ?_⟩
  · exact (hlen _).symm ▸ Nat.le_add_right _ _
  · exact (List.take_left' ht).trans h.buffered
  · exact (hlen _).symm ▸ Nat.add_le_add_left (grow_room _ _ n) _

/-- both write loops make room the same way: grow when the buffer is full -/
theorem MW.Open.ensureRoom {w : MW} {c : WConn} {k : Kind} {d : Bytes} (h : w.Open c k d) {n : Nat}
    (hn : 0 < n) (full : Prop) [Decidable full] (hfull : ¬ full → w.p < w.buf.body.length) :
    (if full then w.grow n else w).Open c k d ∧
      (if full then w.grow n else w).p < (if full then w.grow n else w).buf.body.length := by
  split
  · exact ⟨(h.grow n).1, Nat.lt_of_lt_of_le (Nat.lt_add_of_pos_right hn) (h.grow n).2⟩
  · exact ⟨h, hfull ‹_›⟩

theorem ncopy_count {r m : Nat} (hr : 0 < r) (hm : 0 < m) :
    0 < (if r > m then m else r) ∧ (if r > m then m else r) ≤ m ∧ (if r > m then m else r) ≤ r := by
  split
  · exact ⟨hm, Nat.le_refl _, Nat.le_of_lt ‹_›⟩
  · exact ⟨hr, Nat.le_of_not_lt ‹_›, Nat.le_refl _⟩

theorem MW.Open.ncopy {w : MW} {c : WConn} {k : Kind} {d : Bytes} (h : w.Open c k d) {m : Nat}
    (hm : 0 < m) :
    (w.ncopy m).1.Open c k d ∧ 0 < (w.ncopy m).2 ∧ (w.ncopy m).2 ≤ m ∧
      (w.ncopy m).1.p + (w.ncopy m).2 ≤ (w.ncopy m).1.buf.body.length := by
  have := h.ensureRoom hm (w.buf.body.length - w.p = 0) fun hz => Nat.lt_of_sub_pos (Nat.pos_of_ne_zero hz)
  unfold MW.ncopy
  generalize (if w.buf.body.length - w.p = 0 then w.grow m else w) = w1 at this ⊢
  obtain ⟨h0, hle, hroom⟩ := ncopy_count (Nat.sub_pos_of_lt this.2) hm
  exact ⟨this.1, h0, hle, Nat.add_le_of_le_sub' this.1.le hroom⟩

theorem MW.Open.writeLoop {c : WConn} {k : Kind} (fuel : Nat) : ∀ {w : MW} {d : Bytes} (p : Bytes),
    p.length < fuel → w.Open c k d → (MW.writeLoop fuel w p).Open c k (d ++ p) := by
  induction fuel with
  | zero => intro _ _ p hf; exact absurd hf (Nat.not_lt_zero _)
  | succ fuel ih =>
    intro w d p hf h
    unfold MW.writeLoop
    split
    next hp => rwa [List.isEmpty_iff.mp hp, List.append_nil]
    next hp =>
      have hpos : 0 < p.length := List.length_pos_iff.mpr fun hn => hp (List.isEmpty_iff.mpr hn)
      obtain ⟨h1, hn0, hnm, hfit⟩ := h.ncopy hpos
      have := ih (p.drop (w.ncopy p.length).2)
        (by rw [List.length_drop]; exact Nat.lt_of_lt_of_le (Nat.sub_lt hpos hn0) (Nat.le_of_lt_succ hf))
        (h1.put (p.take (w.ncopy p.length).2) (List.length_take_of_le hnm) hfit)
      rwa [List.append_assoc, List.take_append_drop] at this

theorem MW.Open.write {w : MW} {c : WConn} {k : Kind} {d : Bytes} (h : w.Open c k d) (p : Bytes) :
    (w.write p).Open c k (d ++ p) :=
  MW.Open.writeLoop _ p (Nat.lt_succ_self _) h

theorem MW.Open.writeAll {c : WConn} {k : Kind} (chunks : List Bytes) : ∀ {w : MW} {d : Bytes},
    w.Open c k d → (chunks.foldl MW.write w).Open c k (d ++ chunks.flatten) := by
  induction chunks with
  | nil => intro w d h; rwa [List.flatten_nil, List.append_nil]
  | cons ch rest ih =>
    intro w d h
    rw [List.flatten_cons, ← List.append_assoc]
    exact ih (h.write ch)

theorem totalLen_cons (ch : Bytes) (rest : List Bytes) :
    totalLen (ch :: rest) = ch.length + totalLen rest := by
  simp [totalLen]

theorem MW.Open.readFromLoop {c : WConn} {k : Kind} (fuel : Nat) :
    ∀ {w : MW} {d : Bytes} (chunks : List Bytes), totalLen chunks + chunks.length < fuel →
      w.Open c k d → (MW.readFromLoop fuel w chunks).Open c k (d ++ chunks.flatten) := by
  induction fuel with
  | zero => intro _ _ _ hf; exact absurd hf (Nat.not_lt_zero _)
  | succ fuel ih =>
    intro w d chunks hf h
    cases chunks with
    | nil => unfold MW.readFromLoop; rwa [List.flatten_nil, List.append_nil]
    | cons ch rest =>
      have := h.ensureRoom Nat.one_pos (w.p = w.buf.body.length) (Nat.lt_of_le_of_ne h.le)
      unfold MW.readFromLoop
      generalize (if w.p = w.buf.body.length then w.grow 1 else w) = w1 at this ⊢
      obtain ⟨h1, hlt⟩ := this
      rw [totalLen_cons, List.length_cons] at hf
      dsimp only
      -- one `Read` call takes `n` bytes of the chunk
      generalize hn : min (w1.buf.body.length - w1.p) ch.length = n
      have h2 := h1.put (ch.take n) (List.length_take_of_le (hn ▸ Nat.min_le_right _ _))
        (Nat.add_le_of_le_sub' h1.le (hn ▸ Nat.min_le_left _ _))
      rw [List.flatten_cons]
      split
      next hall =>
        have e : d ++ ch.take n ++ rest.flatten = d ++ (ch ++ rest.flatten) := by
          rw [List.take_of_length_le hall, List.append_assoc]
        exact e ▸ ih rest
          (Nat.lt_of_le_of_lt (Nat.add_le_add_right (Nat.le_add_left _ _) _) (Nat.lt_of_succ_lt_succ hf)) h2
      next hall =>
        -- part of the chunk went in: the chunk got shorter, the rest of the measure is as it was
        have hch : 0 < ch.length := Nat.zero_lt_of_lt (Nat.lt_of_not_le hall)
        have hn0 : 0 < n := hn ▸ Nat.lt_min.mpr ⟨Nat.sub_pos_of_lt hlt, hch⟩
        have := ih (ch.drop n :: rest)
          (by rw [totalLen_cons, List.length_cons, List.length_drop]
              exact Nat.lt_of_lt_of_le
                (Nat.add_lt_add_right (Nat.add_lt_add_right (Nat.sub_lt hch hn0) _) _) (Nat.le_of_lt_succ hf))
          h2
        rwa [List.flatten_cons, List.append_assoc, ← List.append_assoc (ch.take n),
          List.take_append_drop] at this

theorem MW.Open.readFrom {w : MW} {c : WConn} {k : Kind} {d : Bytes} (h : w.Open c k d)
    (chunks : List Bytes) : (w.readFrom chunks).Open c k (d ++ chunks.flatten) :=
  MW.Open.readFromLoop _ chunks (Nat.lt_succ_self _) h

theorem beginMessage_open (c : WConn) (k : Kind) (h : c.WF) : (beginMessage c k).Open c k [] := by
  have start : ∀ {c' : WConn} {b : WBuf}, b.hdr.length = 9 → c'.WF → c'.out = c.out →
      c'.isServer = c.isServer → MW.Open { c := c', buf := b, p := 0, kind := k } c k [] :=
    fun hb hwf ho hs => ⟨⟨hb, Nat.zero_le _, List.take_zero⟩, hwf, ho, hs, rfl⟩
  unfold beginMessage
  split
  next b hb => exact start (h.buf b hb) h rfl rfl
  next hb =>
    split
    next b rest hp =>
      exact start (h.pool _ hp b List.mem_cons_self)
        (.of_pool (fun b' hb' => h.pool _ hp b' (List.mem_cons_of_mem _ hb')) hb rfl) rfl rfl
    next => exact start (WBuf.fresh_hdr _) h rfl rfl

theorem endMessage_spec (c : WConn) (b : WBuf) (h : c.WF) (hb : b.hdr.length = 9) :
    (endMessage c b).WF ∧ (endMessage c b).out = c.out ∧ (endMessage c b).isServer = c.isServer := by
  unfold endMessage
  split
  next l hp =>
    refine ⟨.of_pool (fun b' hb' => ?_) rfl rfl, rfl, rfl⟩
    rcases List.mem_cons.mp hb' with rfl | hm
    · exact hb
    · exact h.pool l hp b' hm
  next hp => exact ⟨.of_buf hb rfl hp, rfl, rfl⟩

/-- what `Close` (or the one-shot path) puts on the wire: one spec frame -/
theorem MW.Open.flushFinal {w : MW} {c : WConn} {k : Kind} {d : Bytes} (h : w.Open c k d)
    (extra : Bytes) :
    (w.flushFinal extra).out = c.out ++ Spec.encode ⟨k, d ++ extra⟩ ∧ (w.flushFinal extra).WF ∧
      (w.flushFinal extra).isServer = c.isServer := by
  obtain ⟨hhdr, hlen⟩ := frameHeader_spec w.buf.hdr w.kind (w.p + extra.length) h.hdr
  obtain ⟨hwf, hout, hsrv⟩ := endMessage_spec
    { w.c with out := w.c.out ++ ((frameHeader w.buf.hdr w.kind (w.p + extra.length)).1.drop
        (frameHeader w.buf.hdr w.kind (w.p + extra.length)).2 ++ w.buf.body.take w.p ++ extra) }
    { w.buf with hdr := (frameHeader w.buf.hdr w.kind (w.p + extra.length)).1 }
    ⟨h.wf.buf, h.wf.pool⟩ hlen
  refine ⟨hout.trans ?_, hwf, hsrv.trans h.srv⟩
  show w.c.out ++ _ = _
  rw [hhdr, h.buffered, h.out, h.kind, ← h.len, ← List.length_append, List.append_assoc]
  rfl

end EIO.WT
