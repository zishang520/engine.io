import EIO.Model.Session
/-
The world of the session model: what each primitive update (`setSock`, `setTr`, `setConn`, `setReq`, `ev`, `sev`,
`trSend`, `answer`, a pushed record) changes and what it leaves alone, the equations of two functions whose result
several theorems read, and induction principles for the model's loops and for `run`, stated for any motive so that
every invariant uses the same ones.
-/
namespace EIO.Ses
open EIO EIO.Codec

/-! ### arrays read with a default -/

theorem getD_modify {α} (a : Array α) (i j : Nat) (f : α → α) (d : α) :
    (a.modify i f).getD j d = if i = j ∧ i < a.size then f (a.getD j d) else a.getD j d := by
  rw [Array.getD_eq_getD_getElem?, Array.getD_eq_getD_getElem?, Array.getElem?_modify]
  by_cases hij : i = j
  · subst hij
    by_cases hs : i < a.size <;> simp [hs]
  · simp [hij]

theorem getD_push_lt {α} (a : Array α) (x d : α) (i : Nat) (h : i < a.size) : (a.push x).getD i d = a.getD i d := by
  rw [Array.getD_eq_getD_getElem?, Array.getD_eq_getD_getElem?, Array.getElem?_push_lt h]; simp [h]

theorem getD_push_eq {α} (a : Array α) (x d : α) : (a.push x).getD a.size d = x := by
  rw [Array.getD_eq_getD_getElem?]; simp

theorem getD_oob {α} (a : Array α) (d : α) (i : Nat) (h : a.size ≤ i) : a.getD i d = d := by
  rw [Array.getD_eq_getD_getElem?, Array.getElem?_eq_none h]; rfl

theorem getD_push {α} (a : Array α) (x d : α) (j : Nat) : (a.push x).getD j d = if j = a.size then x else a.getD j d := by
  split
  · rename_i h; rw [h]; exact getD_push_eq a x d
  · rename_i h
    by_cases hlt : j < a.size
    · exact getD_push_lt a x d j hlt
    · rw [getD_oob _ _ _ (by rw [Array.size_push]; omega), getD_oob _ _ _ (Nat.le_of_not_lt hlt)]

/-! ### a record of a table, through an update of the table -/

theorem sock_oob (w : World) (i : Nat) (h : w.socks.size ≤ i) : w.sock i = default := by
  unfold World.sock Array.getD; simp [Nat.not_lt.mpr h]

theorem tr_oob (w : World) (i : Nat) (h : w.trs.size ≤ i) : w.tr i = default := by
  unfold World.tr Array.getD; simp [Nat.not_lt.mpr h]

@[simp] theorem sock_setSock (w : World) (i j : Nat) (f : Sock → Sock) :
    (w.setSock i f).sock j = if i = j ∧ i < w.socks.size then f (w.sock j) else w.sock j := by
  unfold World.setSock World.sock; exact getD_modify _ _ _ _ _

theorem sock_setSock_self (w : World) (i : Nat) (f : Sock → Sock) (h : i < w.socks.size) : (w.setSock i f).sock i = f (w.sock i) := by
  rw [sock_setSock, if_pos ⟨rfl, h⟩]

theorem sock_setSock_other (w : World) (i j : Nat) (f : Sock → Sock) (h : j ≠ i) : (w.setSock i f).sock j = w.sock j := by
  rw [sock_setSock, if_neg fun hc => h hc.1.symm]

@[simp] theorem tr_setTr (w : World) (i j : Nat) (f : Tr → Tr) :
    (w.setTr i f).tr j = if i = j ∧ i < w.trs.size then f (w.tr j) else w.tr j := by
  unfold World.setTr World.tr; exact getD_modify _ _ _ _ _

theorem tr_setTr_of {α} (g : Tr → α) (w : World) (i j : Nat) (f : Tr → Tr) (hf : ∀ t, g (f t) = g t) :
    g ((w.setTr i f).tr j) = g (w.tr j) := by
  rw [tr_setTr]; split
  · exact hf _
  · rfl

theorem tr_setTr_role_none (w : World) (i : Nat) (f : Tr → Tr) (hf : ∀ t, (f t).role = .none) :
    ((w.setTr i f).tr i).role = .none := by
  rw [tr_setTr]; split
  · exact hf _
  · rename_i h
    rw [tr_oob w i (Nat.le_of_not_lt fun hlt => h ⟨rfl, hlt⟩)]; rfl

theorem tr_in_table (g : Tr → Bool) (hg : g default = false) {w : World} {ti : Nat} (h : g (w.tr ti) = true) : ti < w.trs.size := by
  apply Nat.lt_of_not_le; intro hle
  rw [tr_oob w ti hle, hg] at h; cases h

theorem req_setReq (w : World) (i j : Nat) (f : Req → Req) :
    (w.setReq i f).reqs.getD j default = if i = j ∧ i < w.reqs.size then f (w.reqs.getD j default) else w.reqs.getD j default := by
  unfold World.setReq; exact getD_modify _ _ _ _ _

theorem reqs_size_setReq (w : World) (i : Nat) (f : Req → Req) : (w.setReq i f).reqs.size = w.reqs.size := Array.size_modify

@[simp] theorem socks_size_setSock (w : World) (i : Nat) (f : Sock → Sock) :
    (w.setSock i f).socks.size = w.socks.size := by unfold World.setSock; simp

@[simp] theorem trs_size_setTr (w : World) (i : Nat) (f : Tr → Tr) :
    (w.setTr i f).trs.size = w.trs.size := by unfold World.setTr; simp

theorem tr_push {w w' : World} {t : Tr} (h : w'.trs = w.trs.push t) (j : Nat) :
    w'.tr j = if j = w.trs.size then t else w.tr j := by
  unfold World.tr; rw [h]; exact getD_push ..

theorem sock_push {w w' : World} {s : Sock} (h : w'.socks = w.socks.push s) (j : Nat) :
    w'.sock j = if j = w.socks.size then s else w.sock j := by
  unfold World.sock; rw [h]; exact getD_push ..

theorem tr_pushed {w w' : World} {t : Tr} (htrs : w'.trs = w.trs.push t) : w'.tr w.trs.size = t :=
  (tr_push htrs _).trans (if_pos rfl)

/-! ### the components an update leaves alone -/

@[simp] theorem sock_setTr (w : World) (i j : Nat) (f : Tr → Tr) : (w.setTr i f).sock j = w.sock j := rfl
@[simp] theorem tr_setSock (w : World) (i j : Nat) (f : Sock → Sock) : (w.setSock i f).tr j = w.tr j := rfl
@[simp] theorem sock_setReq (w : World) (i j : Nat) (f : Req → Req) : (w.setReq i f).sock j = w.sock j := rfl
@[simp] theorem tr_setReq (w : World) (i j : Nat) (f : Req → Req) : (w.setReq i f).tr j = w.tr j := rfl
@[simp] theorem sock_setConn (w : World) (i j : Nat) (f : Conn → Conn) : (w.setConn i f).sock j = w.sock j := rfl
@[simp] theorem tr_setConn (w : World) (i j : Nat) (f : Conn → Conn) : (w.setConn i f).tr j = w.tr j := rfl
@[simp] theorem sock_ev (w : World) (s : String) (j : Nat) : (w.ev s).sock j = w.sock j := rfl
@[simp] theorem tr_ev (w : World) (s : String) (j : Nat) : (w.ev s).tr j = w.tr j := rfl
@[simp] theorem socks_setTr (w : World) (i : Nat) (f : Tr → Tr) : (w.setTr i f).socks = w.socks := rfl
@[simp] theorem socks_setReq (w : World) (i : Nat) (f : Req → Req) : (w.setReq i f).socks = w.socks := rfl
@[simp] theorem socks_setConn (w : World) (i : Nat) (f : Conn → Conn) : (w.setConn i f).socks = w.socks := rfl
@[simp] theorem socks_ev (w : World) (s : String) : (w.ev s).socks = w.socks := rfl
@[simp] theorem trs_setSock (w : World) (i : Nat) (f : Sock → Sock) : (w.setSock i f).trs = w.trs := rfl
@[simp] theorem trs_setReq (w : World) (i : Nat) (f : Req → Req) : (w.setReq i f).trs = w.trs := rfl
@[simp] theorem trs_setConn (w : World) (i : Nat) (f : Conn → Conn) : (w.setConn i f).trs = w.trs := rfl
@[simp] theorem trs_ev (w : World) (s : String) : (w.ev s).trs = w.trs := rfl
@[simp] theorem reqs_setSock (w : World) (i : Nat) (f : Sock → Sock) : (w.setSock i f).reqs = w.reqs := rfl
@[simp] theorem reqs_setTr (w : World) (i : Nat) (f : Tr → Tr) : (w.setTr i f).reqs = w.reqs := rfl
@[simp] theorem reqs_setConn (w : World) (i : Nat) (f : Conn → Conn) : (w.setConn i f).reqs = w.reqs := rfl
@[simp] theorem reqs_ev (w : World) (s : String) : (w.ev s).reqs = w.reqs := rfl
@[simp] theorem registry_setSock (w : World) (i : Nat) (f : Sock → Sock) : (w.setSock i f).registry = w.registry := rfl
@[simp] theorem registry_setTr (w : World) (i : Nat) (f : Tr → Tr) : (w.setTr i f).registry = w.registry := rfl
@[simp] theorem registry_setReq (w : World) (i : Nat) (f : Req → Req) : (w.setReq i f).registry = w.registry := rfl
@[simp] theorem registry_setConn (w : World) (i : Nat) (f : Conn → Conn) : (w.setConn i f).registry = w.registry := rfl
@[simp] theorem registry_ev (w : World) (s : String) : (w.ev s).registry = w.registry := rfl
@[simp] theorem slog_setSock (w : World) (i : Nat) (f : Sock → Sock) : (w.setSock i f).slog = w.slog := rfl
@[simp] theorem slog_setTr (w : World) (i : Nat) (f : Tr → Tr) : (w.setTr i f).slog = w.slog := rfl
@[simp] theorem slog_setReq (w : World) (i : Nat) (f : Req → Req) : (w.setReq i f).slog = w.slog := rfl
@[simp] theorem slog_setConn (w : World) (i : Nat) (f : Conn → Conn) : (w.setConn i f).slog = w.slog := rfl
@[simp] theorem slog_ev (w : World) (s : String) : (w.ev s).slog = w.slog := rfl
@[simp] theorem now_setSock (w : World) (i : Nat) (f : Sock → Sock) : (w.setSock i f).now = w.now := rfl
@[simp] theorem o_setSock (w : World) (i : Nat) (f : Sock → Sock) : (w.setSock i f).o = w.o := rfl
@[simp] theorem now_ev (w : World) (s : String) : (w.ev s).now = w.now := rfl
@[simp] theorem o_ev (w : World) (s : String) : (w.ev s).o = w.o := rfl
@[simp] theorem o_setReq' (w : World) (i : Nat) (f : Req → Req) : (w.setReq i f).o = w.o := rfl
@[simp] theorem o_ev' (w : World) (s : String) : (w.ev s).o = w.o := rfl
@[simp] theorem evs_setReq' (w : World) (i : Nat) (f : Req → Req) : (w.setReq i f).evs = w.evs := rfl

/-! ### `sev`: an entry of the session log, printed if somebody listens -/

theorem sev_eq (w : World) (sid : Nat) (e : SEv) :
    w.sev sid e = { w with slog := w.slog ++ [(sid, e)] } ∨
    w.sev sid e = ({ w with slog := w.slog ++ [(sid, e)] } : World).ev s!"s{sid}:{e.render}" := by
  unfold World.sev; simp only []; split <;> simp

@[simp] theorem sock_sev (w : World) (sid : Nat) (e : SEv) (j : Nat) : (w.sev sid e).sock j = w.sock j := by
  rcases sev_eq w sid e with h | h <;> rw [h] <;> rfl

@[simp] theorem tr_sev (w : World) (sid : Nat) (e : SEv) (j : Nat) : (w.sev sid e).tr j = w.tr j := by
  rcases sev_eq w sid e with h | h <;> rw [h] <;> rfl

@[simp] theorem socks_sev (w : World) (sid : Nat) (e : SEv) : (w.sev sid e).socks = w.socks := by
  rcases sev_eq w sid e with h | h <;> rw [h] <;> rfl

@[simp] theorem trs_sev (w : World) (sid : Nat) (e : SEv) : (w.sev sid e).trs = w.trs := by
  rcases sev_eq w sid e with h | h <;> rw [h] <;> rfl

@[simp] theorem reqs_sev (w : World) (sid : Nat) (e : SEv) : (w.sev sid e).reqs = w.reqs := by
  rcases sev_eq w sid e with h | h <;> rw [h] <;> rfl

@[simp] theorem registry_sev (w : World) (sid : Nat) (e : SEv) : (w.sev sid e).registry = w.registry := by
  rcases sev_eq w sid e with h | h <;> rw [h] <;> rfl

@[simp] theorem slog_sev (w : World) (sid : Nat) (e : SEv) : (w.sev sid e).slog = w.slog ++ [(sid, e)] := by
  rcases sev_eq w sid e with h | h <;> rw [h] <;> rfl

@[simp] theorem now_sev (w : World) (sid : Nat) (e : SEv) : (w.sev sid e).now = w.now := by
  rcases sev_eq w sid e with h | h <;> rw [h] <;> rfl

@[simp] theorem o_sev (w : World) (sid : Nat) (e : SEv) : (w.sev sid e).o = w.o := by
  rcases sev_eq w sid e with h | h <;> rw [h] <;> rfl

theorem tasks_sev (w : World) (sid : Nat) (e : SEv) : (w.sev sid e).tasks = w.tasks := by
  rcases sev_eq w sid e with h | h <;> rw [h] <;> rfl

/-! ### `trSend`, `answer`, `lookup` -/

@[simp] theorem sock_trSend (w : World) (ti : Nat) (b : List Pkt) (j : Nat) : (trSend w ti b).sock j = w.sock j := by unfold trSend; rfl
@[simp] theorem socks_trSend (w : World) (ti : Nat) (b : List Pkt) : (trSend w ti b).socks = w.socks := by unfold trSend; rfl
@[simp] theorem registry_trSend (w : World) (ti : Nat) (b : List Pkt) : (trSend w ti b).registry = w.registry := by unfold trSend; rfl
@[simp] theorem now_trSend (w : World) (ti : Nat) (b : List Pkt) : (trSend w ti b).now = w.now := by unfold trSend; rfl
@[simp] theorem o_trSend (w : World) (ti : Nat) (b : List Pkt) : (trSend w ti b).o = w.o := by unfold trSend; rfl

theorem slog_trSend (w : World) (ti : Nat) (b : List Pkt) : (trSend w ti b).slog = w.slog := by unfold trSend; rfl

theorem tr_trSend (w : World) (ti : Nat) (b : List Pkt) (j : Nat) :
    (trSend w ti b).tr j = (w.setTr ti fun t => { t with writable := false }).tr j := by unfold trSend; rfl

theorem trs_size_trSend (w : World) (ti : Nat) (b : List Pkt) : (trSend w ti b).trs.size = w.trs.size :=
  trs_size_setTr w ti fun t => { t with writable := false }

@[simp] theorem tr_trSend_closeFn (w : World) (ti j : Nat) (b : List Pkt) : ((trSend w ti b).tr j).closeFn = (w.tr j).closeFn := by
  show ((w.setTr ti fun t => { t with writable := false }).tr j).closeFn = _
  rw [tr_setTr]; split <;> rfl

/-- `Transport.Send` queues a writer of the transport's kind -/
theorem tasks_trSend (w : World) (ti : Nat) (b : List Pkt) :
    (trSend w ti b).tasks = w.tasks ++ [if (w.tr ti).isPolling = true then .pollSend ti b else .wsSend ti b] := by
  have e := tr_setTr_of (·.isPolling) w ti ti (fun t => { t with writable := false }) fun _ => rfl
  unfold trSend; dsimp only
  rw [e]; rfl

@[simp] theorem sock_answer (w : World) (r : Nat) (resp : Resp) (j : Nat) : (w.answer r resp).sock j = w.sock j := by
  unfold World.answer; split <;> rfl

@[simp] theorem tr_answer (w : World) (r : Nat) (resp : Resp) (j : Nat) : (w.answer r resp).tr j = w.tr j := by
  unfold World.answer; split <;> rfl

theorem slog_answer (w : World) (r : Nat) (resp : Resp) : (w.answer r resp).slog = w.slog := by
  unfold World.answer; split <;> rfl

theorem socks_answer (w : World) (r : Nat) (resp : Resp) : (w.answer r resp).socks = w.socks := by
  unfold World.answer; split <;> rfl

theorem trs_answer (w : World) (r : Nat) (resp : Resp) : (w.answer r resp).trs = w.trs := by
  unfold World.answer; split <;> rfl

theorem lookup_reg (w : World) (sid : Nat) (s : Sock) (h : lookup w sid = some s) : s = w.sock sid ∧ sid ∈ w.registry := by
  unfold lookup at h
  split at h
  · rename_i hc
    cases h
    exact ⟨rfl, by simpa using hc⟩
  · cases h

/-! ### two functions whose result several theorems read -/

/-- `emitHeaders` with every test read from the world it starts in: a response that names no session gets the cookie, if
    one is configured, and raises `initial_headers`, if listeners are registered; every response raises `headers` then -/
theorem emitHeaders_eq (w : World) (ti r : Nat) :
    emitHeaders w ti r =
      let first := (w.reqs.getD r default).hasSid = false
      let w1 := if first ∧ w.o.cookie = true then
          w.setReq r fun q => { q with cookie := some ("io=".toUTF8.toList ++ sidBytes (w.tr ti).owner ++ "; Path=/; HttpOnly".toUTF8.toList) }
        else w
      let w2 := if first ∧ w.o.hdr = true then w1.ev s!"srv:initial_headers:{r}" else w1
      if w.o.hdr = true then w2.ev s!"srv:headers:{r}" else w2 := by
  unfold emitHeaders
  dsimp only
  generalize (w.reqs.getD r default).hasSid = s
  cases s <;> cases hc : w.o.cookie <;> cases hh : w.o.hdr <;> simp [hh, World.setReq, World.ev]

theorem wsFrame_fst (w : World) (c : Nat) (m : Msg) : (wsFrame w c m).1 =
    if ¬ ((w.conns.getD c default).serverOpen ∧ (w.conns.getD c default).clientOpen) then w else
    match trOfConn w c with
    | none => w
    | some ti =>
      if m.data.length > w.o.maxPayload then
        trOnError (w.setConn c fun x => { x with serverOpen := false, ended := some "close:1009:-" }) ti
      else trEmitPacket w ti (if (w.tr ti).proto = 3 then decodePacketV3 m else decodePacketV4 m).1 := by
  unfold wsFrame; dsimp only
  rw [apply_ite Prod.fst]
  cases trOfConn w c with
  | none => rfl
  | some ti => dsimp only; rw [apply_ite Prod.fst]

/-! ### induction: the loops of the model and `run`, for any motive (what holds before and is kept by each turn holds after) -/

/-- `emitHeaders` sets at most the cookie of `r` and prints at most two events -/
theorem emitHeaders_ind {P : World → Prop} {w : World} (ti r : Nat)
    (hreq : ∀ w c, P w → P (w.setReq r fun q => { q with cookie := c })) (hev : ∀ w s, P w → P (w.ev s)) (h : P w) :
    P (emitHeaders w ti r) := by
  unfold emitHeaders
  refine ite_ind (fun _ => hev _ _ ?_) fun _ => ?_
  all_goals
    refine ite_ind (fun _ => ?_) fun _ => h
    refine ite_ind (fun _ => hev _ _ ?_) fun _ => ?_
    all_goals exact ite_ind (fun _ => hreq _ _ h) fun _ => h

theorem wsSendLoop_ind {P : World → Prop} (ti : Nat) (hput : ∀ w f, P w → P (w.setConn (w.tr ti).conn f))
    (herr : ∀ w, P w → P (trOnError w ti)) (batch : List Pkt) {w : World} (h : P w) : P (wsSendLoop ti batch w) := by
  induction batch generalizing w with
  | nil => exact h
  | cons p rest ih => rw [wsSendLoop]; exact ite_ind (fun _ => ih (hput _ _ h)) fun _ => ih (herr _ h)

theorem pollDeliver_ind {P : World → Prop} (ti : Nat) (pkts : List Pkt) (hclose : ∀ w, P w → P (pollOnClose w ti))
    (hpkt : ∀ w, ∀ p ∈ pkts, P w → P (trEmitPacket w ti p)) {w : World} (h : P w) : P (pollDeliver ti pkts w) := by
  induction pkts generalizing w with
  | nil => rw [pollDeliver]; exact h
  | cons p rest ih =>
    rw [pollDeliver]
    exact ite_ind (fun _ => hclose _ h) fun _ =>
      ih (fun w q hq => hpkt w q (List.mem_cons_of_mem _ hq)) (hpkt _ p List.mem_cons_self h)

theorem settle_ind {P : World → Prop} (hrun : ∀ w t rest, w.tasks = t :: rest → P w → P (runTask { w with tasks := rest } t))
    (f : Nat) {w : World} (h : P w) : P (settle f w) := by
  induction f generalizing w with
  | zero => exact h
  | succ f ih =>
    rw [settle]; split
    · exact h
    · rename_i t rest hq; exact ih (hrun w t rest hq h)

theorem advance_ind {P : World → Prop} (target : Nat) (hnow : ∀ w n, P w → P ({ w with now := n } : World))
    (hfire : ∀ w id, P w → P (fireTimer w id)) (f : Nat) {w : World} (h : P w) : P (advance f w target) := by
  induction f generalizing w with
  | zero => exact hnow _ _ h
  | succ f ih =>
    rw [advance]; split
    · exact ih (hfire _ _ (hnow _ _ h))
    · exact hnow _ _ h

theorem run_induction {P : World → Prop} (o : Opts) (ops : List Op) (h0 : P (init o)) (hs : ∀ w op, P w → P (step w op)) :
    P (run o ops) := foldl_ind hs h0

theorem run_append (o : Opts) (ops ops' : List Op) : run o (ops ++ ops') = ops'.foldl step (run o ops) := by
  unfold run; rw [List.foldl_append]

/-- `run_induction` whose step may use what is known of every reachable world already -/
theorem run_induction_of {Q P : World → Prop} (hQ : ∀ o ops, Q (run o ops)) (o : Opts) (ops : List Op) (h0 : P (init o))
    (hs : ∀ w op, Q w → P w → P (step w op)) : P (run o ops) := by
  suffices ∀ pre, P (run o pre) → P (ops.foldl step (run o pre)) from this [] h0
  induction ops with
  | nil => exact fun _ h => h
  | cons op rest ih =>
    intro pre h
    have e : step (run o pre) op = run o (pre ++ [op]) := by rw [run_append]; rfl
    rw [List.foldl_cons, e]
    exact ih _ (e ▸ hs _ op (hQ o pre) h)

end EIO.Ses
