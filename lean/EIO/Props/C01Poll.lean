import EIO.Lemmas.SesOps
import EIO.Props.SessionLocal
import EIO.Props.C01Wire
/-
C01 on the polling transport (every model state that satisfies the invariant): the writer task answers the
pending poll with one payload, the encoding of the whole batch; for revision 4 that payload decodes to the
batch, packet by packet.
-/
namespace EIO.Ses
open EIO EIO.Codec

/-- the body of the poll response that carries `batch` on transport `t` -/
def pollBody (t : Tr) (batch : List Pkt) : Bytes :=
  match t.jsonp with
  | some digits => jsonpBody digits (encodePayload t batch).data
  | none => (encodePayload t batch).data

theorem emitHeaders_resp (w : World) (ti r j : Nat) :
    ((emitHeaders w ti r).reqs.getD j default).resp = (w.reqs.getD j default).resp ∧ (emitHeaders w ti r).reqs.size = w.reqs.size := by
  refine emitHeaders_ind (P := fun w' => (w'.reqs.getD j default).resp = _ ∧ w'.reqs.size = _) ti r (fun w' c h => ⟨?_, ?_⟩)
    (fun _ _ h => h) ⟨rfl, rfl⟩
  · rw [req_setReq, apply_ite Req.resp, ite_self]; exact h.1
  · exact (reqs_size_setReq ..).trans h.2

/-- the pending poll is answered with the payload of the whole batch -/
theorem c01_poll_answer_is_payload (w : World) (ti r : Nat) (batch : List Pkt) (i : Inv w)
    (hsc : (w.tr ti).shouldClose = false) (hreq : (w.tr ti).req = some r) (hr : r < w.reqs.size)
    (hun : (w.reqs.getD r default).resp = none) :
    ∃ resp, ((runPollSend w ti batch).reqs.getD r default).resp = some resp ∧ resp.status = 200 ∧
      resp.body = pollBody (w.tr ti) batch := by
  unfold runPollSend
  simp only [hsc, Bool.false_eq_true, if_false, hreq]
  refine ⟨?resp, ?h1, ?h2, ?h3⟩
  case h1 =>
    -- `answer` records the response, and the drain event that follows keeps it
    refine ((pr_trEmitDrain ti (Pres.refl _)) ?_).2.reqs.2 r _ ?_
    · exact ((pr_answer _ _ (pr_emitHeaders _ _ (pr_setTr _ _ (Pres.refl w)))) i).1
    · refine c11_answer_records _ r _ ?_ ?_
      · rw [(emitHeaders_resp _ ti r r).2]; exact hr
      · rw [(emitHeaders_resp _ ti r r).1]; exact hun
  case h2 => rfl
  case h3 => rfl

/-- revision 4, plain polling: the payload decodes to the batch, packet by packet -/
theorem c01_poll_answer_decodes (t : Tr) (batch : List Pkt) (h4 : t.proto ≠ 3) (hj : t.jsonp = none) (hwf : WFv4 batch) :
    decodePayloadV4 (pollBody t batch) = batch.map fun p => (decodePacketV4 ⟨.text, (encodePacketV4 p false).data⟩).1 := by
  unfold pollBody encodePayload
  simp only [hj, h4, if_false]
  exact v4_payload_roundtrip batch hwf

/-- … and a batch of messages decodes to exactly those messages -/
theorem c01_poll_messages_decode (t : Tr) (ms : List Msg) (h4 : t.proto ≠ 3) (hj : t.jsonp = none)
    (hwf : WFv4 (ms.map fun m => { typ := .message, data := some m })) :
    decodePayloadV4 (pollBody t (ms.map fun m => { typ := .message, data := some m })) =
      ms.map fun m => { typ := .message, data := some m } := by
  rw [c01_poll_answer_decodes t _ h4 hj hwf, List.map_map]
  apply List.map_congr_left
  intro m _
  exact v4_payload_message m

end EIO.Ses
