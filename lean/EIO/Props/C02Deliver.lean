import EIO.Lemmas.World
import EIO.Props.Codec
/-
C02, the delivery half: the message packets a client submits on the session's
current transport while the session is open are delivered to the application
once each, in submission order, intact — for every payload, of any length.
-/
namespace EIO.Ses
open EIO EIO.Codec

def msgPkt (m : Msg) : Pkt := { typ := .message, data := some m }

/-- what the application sees of a sequence of messages: per message one `packet`
    event and one `message` event carrying it -/
def msgEvents (sid : Nat) (ms : List Msg) : List (Nat × SEv) :=
  ms.flatMap fun m => [(sid, SEv.packet .message), (sid, SEv.message (some m))]

/-- one message packet arriving for an open session -/
theorem sockOnPacket_message (w : World) (sid : Nat) (m : Msg) (hopen : (w.sock sid).rs = .open_) :
    sockOnPacket w sid (msgPkt m) = (w.sev sid (.packet .message)).sev sid (.message (some m)) := by
  unfold sockOnPacket msgPkt
  simp [hopen]

theorem trEmitPacket_message (w : World) (ti sid : Nat) (m : Msg) (hr : (w.tr ti).role = .current sid)
    (ho : (w.sock sid).rs = .open_) :
    trEmitPacket w ti (msgPkt m) = (w.sev sid (.packet .message)).sev sid (.message (some m)) := by
  unfold trEmitPacket; simp only [hr]; exact sockOnPacket_message w sid m ho

/-- `polling.OnData` on the packets of a payload: every message is delivered, in order, once;
    the session is still open and still listens on this transport afterwards -/
theorem c02_deliver_in_order (ti sid : Nat) (ms : List Msg) : ∀ (w : World),
    (w.tr ti).role = .current sid → (w.sock sid).rs = .open_ →
    (pollDeliver ti (ms.map msgPkt) w).slog = w.slog ++ msgEvents sid ms ∧
    ((pollDeliver ti (ms.map msgPkt) w).sock sid).rs = .open_ ∧
    ((pollDeliver ti (ms.map msgPkt) w).tr ti).role = .current sid := by
  induction ms with
  | nil => intro w hr ho; simp [pollDeliver, msgEvents, hr, ho]
  | cons m rest ih =>
    intro w hr ho
    have hne : (msgPkt m).typ ≠ .close := by simp [msgPkt]
    rw [List.map_cons, pollDeliver]
    simp only [hne, if_false, trEmitPacket_message w ti sid m hr ho]
    obtain ⟨h1, h2, h3⟩ := ih ((w.sev sid (.packet .message)).sev sid (.message (some m)))
      (by rw [tr_sev, tr_sev]; exact hr) (by rw [sock_sev, sock_sev]; exact ho)
    refine ⟨?_, h2, h3⟩
    rw [h1, slog_sev, slog_sev]
    simp [msgEvents, List.append_assoc]

/-- end to end on a revision-4 polling transport: the body a conformant client builds for a list of
    messages (any kinds, any sizes the scanner admits) is decoded to those messages and they are
    delivered in submission order, each once, with their bytes and kind -/
theorem c02_payload_delivered_in_order (w : World) (ti sid : Nat) (ms : List Msg)
    (hproto : (w.tr ti).proto = 4) (hwf : WFv4 (ms.map msgPkt))
    (hr : (w.tr ti).role = .current sid) (ho : (w.sock sid).rs = .open_) :
    (pollOnData w ti (encodePayloadV4 (ms.map msgPkt)).data false).1.slog = w.slog ++ msgEvents sid ms ∧
    (pollOnData w ti (encodePayloadV4 (ms.map msgPkt)).data false).2 = true := by
  have hdec : decodePayloadV4 (encodePayloadV4 (ms.map msgPkt)).data = ms.map msgPkt := by
    rw [v4_payload_roundtrip _ hwf, List.map_map]
    apply List.map_congr_left
    intro m _
    exact v4_payload_message m
  unfold pollOnData pollDecode
  simp only [hproto, if_true, hdec]
  exact ⟨(c02_deliver_in_order ti sid ms w hr ho).1, trivial⟩

/-- a WebSocket / WebTransport frame carrying one message, for an open session on that connection's transport -/
theorem c02_frame_delivered (w : World) (ti sid : Nat) (m : Msg) (b64 : Bool)
    (hr : (w.tr ti).role = .current sid) (ho : (w.sock sid).rs = .open_) :
    (trEmitPacket w ti (decodePacketV4 (encodePacketV4 (msgPkt m) b64)).1).slog = w.slog ++ msgEvents sid [m] := by
  have : (decodePacketV4 (encodePacketV4 (msgPkt m) b64)).1 = msgPkt m := by
    unfold msgPkt; rw [v4_packet_roundtrip]
  rw [this, trEmitPacket_message w ti sid m hr ho, slog_sev, slog_sev]
  simp [msgEvents, List.append_assoc]

/-- non-vacuity: a two-message payload on a fresh polling session -/
example :
    let w := run {} [.hsPolling 4 false none, .settle]
    (w.tr 0).role = .current 0 ∧ (w.sock 0).rs = .open_ ∧ (w.tr 0).proto = 4 := by decide +kernel

end EIO.Ses
