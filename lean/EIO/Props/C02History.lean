import EIO.Lemmas.Only
import EIO.Props.C02Deliver
/-
C02 over whole histories: the `message` entries of the session log — what the application was handed — are, in
order, exactly what the client's data requests and frames delivered at the moment each was submitted. No other
operation (handshake, poll, abort, upgrade candidate, connection drop, close frame, application send or close,
server shutdown, the clock with all its timers, the writer tasks) ever delivers a message
(`c02_only_submissions_deliver`), for every configuration and every finite operation sequence
(`c02_messages_are_submissions`). What one submission delivers is the subject of `Props/C02Deliver.lean` (every payload,
every model state); what a closed session delivers (nothing) of `c03_silence_after_close`.
-/
namespace EIO.Ses
open EIO EIO.Codec

/-- the messages handed to the application, with the session they were handed to -/
def msgsOf (l : List (Nat × SEv)) : List (Nat × Option Msg) :=
  l.filterMap fun e => match e.2 with | .message m => some (e.1, m) | _ => none

theorem msgsOf_append (a b : List (Nat × SEv)) : msgsOf (a ++ b) = msgsOf a ++ msgsOf b := by
  simp [msgsOf, List.filterMap_append]

def SEv.isMessage : SEv → Bool
  | .message _ => true
  | _ => false

theorem msgsOf_none (l : List (Nat × SEv)) (h : ∀ e ∈ l, e.2.isMessage = false) : msgsOf l = [] := by
  apply List.filterMap_eq_nil_iff.mpr
  intro e he
  have := h e he
  cases hev : e.2 <;> first | rfl | (rw [hev] at this; cases this)

/-- **"anything else never delivers"**: an operation that is not a data request or a frame adds no message -/
theorem c02_only_submissions_deliver (w : World) (op : Op) (h : op.submits = false) :
    msgsOf (step w op).slog = msgsOf w.slog := by
  obtain ⟨added, hl, hn⟩ :=
    (step_of_not_submits SEv.isMessage (by constructor <;> intros <;> rfl) (fun _ _ => rfl) (fun _ _ _ => rfl) (fun _ => rfl) w op h).log
  rw [hl, msgsOf_append, msgsOf_none added hn, List.append_nil]

/-- what one operation handed to the application, seen from the world it ran in -/
def deliveredBy (w : World) (op : Op) : List (Nat × Option Msg) :=
  msgsOf ((step w op).slog.drop w.slog.length)

/-- the deliveries of the client's submissions along a history -/
def deliveredAll (w : World) : List Op → List (Nat × Option Msg)
  | [] => []
  | op :: rest => (if op.submits then deliveredBy w op else []) ++ deliveredAll (step w op) rest

theorem foldl_messages (w : World) (ops : List Op) :
    msgsOf (ops.foldl step w).slog = msgsOf w.slog ++ deliveredAll w ops := by
  induction ops generalizing w with
  | nil => simp [deliveredAll]
  | cons op rest ih =>
    rw [List.foldl_cons, ih, deliveredAll]
    obtain ⟨added, hl, _⟩ := (step_any w op).log
    by_cases hs : op.submits = true
    · simp only [hs, if_true, deliveredBy]
      rw [hl, msgsOf_append, List.drop_left, List.append_assoc]
    · have hs' : op.submits = false := by simpa using hs
      rw [c02_only_submissions_deliver w op hs']
      simp [hs']

/-- **C02, whole histories**: for every configuration and every finite sequence of operations, the messages the
    application has been handed are, in order, exactly the deliveries of the client's data requests and frames,
    each made by the operation that submitted it. -/
theorem c02_messages_are_submissions (o : Opts) (ops : List Op) :
    msgsOf (run o ops).slog = deliveredAll (init o) ops := by
  have := foldl_messages (init o) ops
  unfold run
  rw [this]
  simp [msgsOf, init]

/-- the two statements together on a concrete history: two messages in one body, a poll, an application send,
    a clock advance past the first ping, a third message — three deliveries, in that order -/
example :
    let m (s : String) : Msg := { kind := .text, data := s.toUTF8.toList }
    let body := (encodePayloadV4 [msgPkt (m "a"), msgPkt (m "b")]).data
    let ops := [Op.hsPolling 4 false none, .settle, .post 0 false true body false, .poll 0 [], .send 0 (m "x") true false none,
                .settle, .adv 30000, .post 0 false true (encodePayloadV4 [msgPkt (m "c")]).data false]
    msgsOf (run {} ops).slog = [(0, some (m "a")), (0, some (m "b")), (0, some (m "c"))] := by
  decide +kernel

end EIO.Ses
