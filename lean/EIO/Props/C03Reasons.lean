import EIO.Lemmas.Only
/-
C03, "a session stops being open only for a documented cause … and then emits exactly one close event carrying that
cause's reason": for every configuration and every finite operation sequence, every close event of the log carries one
of the documented reasons — the peer closed the transport, a transport error, the heartbeat deadline, an undecodable
packet, a close by the application or the server (`c03_close_reasons_are_documented`). Which cause produces which
reason: `ping_timeout` only the deadline timer (`Props/C07Deadline.lean`); the others are compared event by event
with the implementation (the reason is part of the printed close token).
-/
namespace EIO.Ses
open EIO EIO.Codec

/-- the causes the protocol documents: the peer closed the transport, a transport error, the heartbeat deadline, an
    undecodable packet, a close by the application or the server -/
def docReasons : List String := ["transport_close", "transport_error", "ping_timeout", "parse_error", "forced_close"]

def SEv.isUndoc : SEv → Bool
  | .close r _ => !(docReasons.contains r)
  | _ => false

/-- every operation leaves the log without a `close` entry whose reason is not a documented one: the reasons are
    those the close paths supply, `parse_error` for an undecodable packet and `ping_timeout` from the deadline timer -/
theorem step_doc (w : World) (op : Op) : Only (.allBut SEv.isUndoc) w (step w op) :=
  only_step (by constructor <;> intros <;> rfl) w op <|
    May.covers_of_full ⟨trivial, fun _ => rfl, fun _ _ _ => rfl⟩
      (fun _ => ⟨fun _ => ⟨rfl, rfl⟩, fun _ => rfl, fun _ _ => rfl, fun _ => rfl, fun _ => rfl⟩) (fun _ _ => rfl) op
      (fun _ => trivial) (fun _ _ => ⟨trivial, fun _ => ⟨fun _ _ => rfl, fun _ _ _ => rfl⟩⟩) fun _ => trivial

/-- **every close event carries a documented reason**, in every history -/
theorem c03_close_reasons_are_documented (o : Opts) (ops : List Op) (sid : Nat) (r : String) (rs : RS)
    (h : (sid, SEv.close r rs) ∈ (run o ops).slog) : r ∈ docReasons := by
  have := run_induction (P := fun w => ∀ e ∈ w.slog, e.2.isUndoc = false) o ops (by intro e he; simp [init] at he)
    (fun w op hw e he => by
      obtain ⟨added, hl, hn⟩ := (step_doc w op).log
      rw [hl] at he
      exact (List.mem_append.mp he).elim (hw e) (hn e)) (sid, SEv.close r rs) h
  simpa [SEv.isUndoc] using this

/-- non-vacuity: five sessions closed for the five causes -/
example :
    let w := run { I := 300, T := 200 } [.hsPolling 4 false none, .hsWebsocket 4 false, .hsWebsocket 4 false, .hsWebsocket 4 false,
      .hsWebsocket 4 false, .settle, .close 0 true, .drop 0, .frame 1 ⟨.text, [0x7a]⟩, .frame 2 ⟨.text, [0x32]⟩, .adv 600]
    (w.slog.filterMap fun e => match e.2 with | .close r _ => some (e.1, r) | _ => none) =
      [(0, "forced_close"), (1, "transport_close"), (2, "parse_error"), (3, "transport_error"), (4, "ping_timeout")] := by
  decide +kernel

end EIO.Ses
