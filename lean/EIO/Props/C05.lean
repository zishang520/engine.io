import EIO.Spec.Admit
/-
C05 (admission half) — every request that reaches the engine is admitted or
rejected by the fixed precedence of checks, and a rejected request gets
exactly the documented answer and exactly one connection_error event.
Quantified over every request tuple (arbitrary strings and bytes, repeated
query keys), every configuration and every registry content.
-/
namespace EIO.Admit
open EIO

theorem firstFailing_eq_find? (l : List Spec.Check) : Spec.firstFailing l = l.find? (·.fails) := by
  induction l with
  | nil => rfl
  | cons a l ih => rw [Spec.firstFailing, List.find?_cons, ih]; cases a.fails <;> rfl

theorem firstFailing_append (l l' : List Spec.Check) :
    Spec.firstFailing (l ++ l') = (Spec.firstFailing l).or (Spec.firstFailing l') := by
  simp only [firstFailing_eq_find?, List.find?_append]

theorem firstFailing_mem {l : List Spec.Check} {ch : Spec.Check}
    (h : Spec.firstFailing l = some ch) : ch ∈ l ∧ ch.fails = true := by
  rw [firstFailing_eq_find?] at h
  exact ⟨List.mem_of_find?_eq_some h, List.find?_some h⟩

/-- what `Verify` would return for the first failing check, one check at a time -/
theorem firstFailing_cons_decide (p : Prop) [Decidable p] (e : ErrKind) (t : Option String)
    (l : List Spec.Check) :
    (Spec.firstFailing ({ fails := decide p, err := e, text := t } :: l)).map (fun ch => (ch.err, ch.text)) =
      if p then some (e, t) else (Spec.firstFailing l).map fun ch => (ch.err, ch.text) := by
  by_cases h : p <;> simp [Spec.firstFailing, h]

theorem length_pos_iff_ne_empty (s : String) : s.length > 0 ↔ s ≠ "" :=
  Nat.pos_iff_ne_zero.trans (not_congr String.length_eq_zero_iff)

theorem invalidHeaderChar_iff (v : Bytes) : invalidHeaderChar v = true ↔ ¬ Spec.originWellFormed v := by
  simp only [invalidHeaderChar, Spec.originWellFormed, List.any_eq_true, decide_eq_true_eq,
    Classical.not_forall, Classical.not_not, exists_prop]
  exact exists_congr fun b => and_congr_right fun _ => and_congr_right fun _ => by omega

/-- `Verify` runs the request checks after the middleware one, in their order -/
theorem verify_eq (c : Cfg) (reg : Registry) (r : Request) :
    verify c reg r =
      (Spec.firstFailing (Spec.requestChecks c reg r).tail).map fun ch => (ch.err, ch.text) := by
  simp only [verify, Spec.requestChecks, List.tail_cons, firstFailing_cons_decide, Spec.firstFailing.eq_1,
    Option.map_none, length_pos_iff_ne_empty, List.contains_iff_mem, invalidHeaderChar_iff]
  -- the checks of transport and origin stand alike on both sides; then come two chains of `if`s that differ in how
  -- the cases with and without a session id are told apart
  refine ite_congr rfl (fun _ => rfl) fun _ => ite_congr rfl (fun _ => rfl) fun _ => ?_
  by_cases hs : peek r.sid = ""
  · simp only [hs, ne_eq, not_true_eq_false, false_and, if_false, not_false_eq_true, true_and]
    cases c.hookRefuses <;> rfl
  · cases hreg : reg (peek r.sid) <;> simp [hs]

theorem firstFailing_requestChecks (c : Cfg) (reg : Registry) (r : Request) :
    Spec.firstFailing (Spec.requestChecks c reg r) =
      if c.mwFails then some { fails := c.mwFails, err := .badRequest }
      else Spec.firstFailing (Spec.requestChecks c reg r).tail := rfl

theorem abort_documented {tbl : ErrTable} (htbl : tbl.get = Spec.documented) (ch : Spec.Check) (ev : Nat) :
    abort tbl ch.err ch.text ev = .reject (Spec.answer ch).1 (Spec.answer ch).2.1 (Spec.answer ch).2.2 ev := by
  rw [abort, htbl]; rfl

/-- `HandleRequest` and `HandleUpgrade` start alike: the middleware, then `Verify`; a failure is answered by
    `abortRequest` with one event, and what follows (`K`) is reached when every request check passes -/
theorem admit_eq (tbl : ErrTable) (c : Cfg) (reg : Registry) (r : Request) (K : Outcome) :
    (if c.mwFails then abort tbl .badRequest none 1
      else match verify c reg r with
        | some (e, m) => abort tbl e m 1
        | none => K) =
      (Spec.firstFailing (Spec.requestChecks c reg r)).elim K fun ch => abort tbl ch.err ch.text 1 := by
  rw [firstFailing_requestChecks, verify_eq]
  cases c.mwFails
  · cases Spec.firstFailing (Spec.requestChecks c reg r).tail <;> rfl
  · rfl

theorem refusesUpgrades_iff (t : String) : (builtin t = true ∧ ¬ handlesUpgrades t = true) ↔ t = "polling" := by
  by_cases hp : t = "polling" <;> simp [builtin, handlesUpgrades, hp]

/-- for a request without session id, `Handshake` refuses exactly when the revision check fails -/
theorem handshakeRefusal_eq (c : Cfg) {r : Request} (hs : peek r.sid = "") :
    handshakeRefusal c r = if (Spec.revisionCheck c r).fails then some .unsupportedProtocol else none := by
  by_cases h4 : peek r.eio = "4" <;> simp [handshakeRefusal, revision, Spec.revisionCheck, hs, h4]

/-- **C05 precedence + error table, plain HTTP requests.** For every request
    tuple, configuration and registry: if some check of the documented
    precedence list fails, the answer is the documented status / code / message
    of the *first* failing check with exactly one connection_error; otherwise
    the request is handed to its session or starts a handshake. Holds for any
    extracted error table equal to the documented one. -/
theorem c05_precedence_http (tbl : ErrTable) (htbl : tbl.get = Spec.documented)
    (c : Cfg) (reg : Registry) (r : Request) (hup : r.upgrade = false) :
    serve tbl c reg r =
      match Spec.firstFailing (Spec.checks c reg r) with
      | some ch => .reject (Spec.answer ch).1 (Spec.answer ch).2.1 (Spec.answer ch).2.2 1
      | none => if peek r.sid ≠ "" then .dispatch (peek r.sid)
                else .handshake (peek r.transport) (revision r) := by
  rw [Spec.checks, firstFailing_append, serve, if_pos (hup ▸ Bool.false_ne_true)]
  -- not by `rw`: the `match` in `admit_eq` is another constant than the one in `serve`, equal by unfolding only
  refine (admit_eq tbl c reg r _).trans ?_
  cases hff : Spec.firstFailing (Spec.requestChecks c reg r) with
  | some ch => exact abort_documented htbl ch 1
  | none =>
    simp only [Option.elim, Option.none_or, Spec.firstFailing]
    by_cases hs : peek r.sid = ""
    · rw [if_neg (not_not_intro hs), handshakeRefusal_eq c hs]
      cases hrev : (Spec.revisionCheck c r).fails
      · simp [hs]
      · exact abort_documented htbl (Spec.revisionCheck c r) 1
    · have hrev : (Spec.revisionCheck c r).fails = false := by simp [Spec.revisionCheck, hs]
      cases hreg : reg (peek r.sid) with
      | some cl => simp [hs, hrev]
      | none =>
        -- the request passed the fourth check: its session id is known
        rw [firstFailing_eq_find?] at hff
        exact absurd (decide_eq_true ⟨hs, hreg⟩)
          (List.find?_eq_none.mp hff _ (.tail _ (.tail _ (.tail _ (.head _)))))

/-- **C05 precedence, WebSocket upgrade requests** (websocket transport
    enabled): the request-level checks are answered over HTTP exactly as above;
    a request that passes them is upgraded and then either closed without a
    message (a transport that cannot be a WebSocket, an unknown / upgrading /
    upgraded session), refused late with a close message carrying the documented
    text and one connection_error (revision not allowed), admitted as a new
    session, or entertained as the session's upgrade candidate. -/
theorem c05_precedence_upgrade (tbl : ErrTable) (htbl : tbl.get = Spec.documented)
    (c : Cfg) (reg : Registry) (r : Request) (hup : r.upgrade = true)
    (hws : c.transports.contains "websocket" = true) :
    serve tbl c reg r =
      match Spec.firstFailing (Spec.requestChecks c reg r) with
      | some ch => .reject (Spec.answer ch).1 (Spec.answer ch).2.1 (Spec.answer ch).2.2 1
      | none =>
        if peek r.transport = "polling" then .silentClose
        else if peek r.sid = "" then
          (if (Spec.revisionCheck c r).fails then
             .lateReject (Spec.documented .unsupportedProtocol).message 1
           else .handshake (peek r.transport) (revision r))
        else match reg (peek r.sid) with
          | none => .silentClose
          | some cl => if cl.upgrading ∨ cl.upgraded then .silentClose else .candidate (peek r.sid) := by
  rw [serve, if_neg (not_not_intro hup), if_neg (not_not_intro hws)]
  refine (admit_eq tbl c reg r _).trans ?_
  cases hff : Spec.firstFailing (Spec.requestChecks c reg r) with
  | some ch => exact abort_documented htbl ch 1
  | none =>
    simp only [Option.elim, refusesUpgrades_iff, String.length_eq_zero_iff]
    -- the same cases on both sides; only the refusal of a handshake is said in other words
    refine ite_congr rfl (fun _ => rfl) fun _ => ite_congr rfl (fun hs => ?_) fun _ => rfl
    rw [handshakeRefusal_eq c hs, htbl]
    cases (Spec.revisionCheck c r).fails <;> rfl

/-- only the hook's check carries a text of its own, and it fails only when the hook gave one -/
theorem checks_text {c : Cfg} {reg : Registry} {r : Request} {ch : Spec.Check}
    (h : ch ∈ Spec.checks c reg r) :
    if ch.err = .forbidden then ch.text = c.hookRefuses ∧ (ch.fails = true → c.hookRefuses.isSome)
    else ch.text = none := by
  simp only [Spec.checks, Spec.requestChecks, Spec.revisionCheck, List.cons_append, List.nil_append,
    List.mem_cons, List.not_mem_nil, or_false] at h
  rcases h with rfl | rfl | rfl | rfl | rfl | rfl | rfl | rfl | rfl <;> simp

/-- every refusal over HTTP carries a documented (code, message) pair, the
    hook's own text for code 4, status 403 exactly for the hook's refusal, and
    exactly one connection_error -/
theorem c05_error_table (tbl : ErrTable) (htbl : tbl.get = Spec.documented)
    (c : Cfg) (reg : Registry) (r : Request) (hup : r.upgrade = false)
    (st code ev : Nat) (msg : String) (h : serve tbl c reg r = .reject st code msg ev) :
    ev = 1 ∧ ∃ e : ErrKind, code = (Spec.documented e).code ∧
      (st = 403 ↔ e = .forbidden) ∧ (st = 400 ∨ st = 403) ∧
      (e ≠ .forbidden → msg = (Spec.documented e).message) ∧
      (e = .forbidden → some msg = c.hookRefuses) := by
  rw [c05_precedence_http tbl htbl c reg r hup] at h
  split at h
  · next ch hff =>
    obtain ⟨hmem, hfail⟩ := firstFailing_mem hff
    have ht := checks_text hmem
    cases h
    refine ⟨rfl, ch.err, rfl, ?_⟩
    unfold Spec.answer
    split at ht
    · next hf =>
      obtain ⟨ht, hsome⟩ := ht
      obtain ⟨m, hm⟩ := Option.isSome_iff_exists.mp (hsome hfail)
      simp [hf, ht, hm]
    · next hf => simp [hf, ht]
  · split at h <;> cases h

/-- non-vacuity: a POST handshake with an unknown transport is refused for the
    transport (check 2), not for the method (check 6) -/
example : serve ⟨Spec.documented⟩ ⟨["polling", "websocket"], false, none, false⟩ (fun _ => none)
    ⟨false, "POST", ["flashsocket"], [], ["3"], []⟩ = .reject 400 0 "Transport unknown" 1 := by
  decide +kernel

/-- a revision-3 handshake with revision 3 not allowed and a refusing hook is
    refused by the hook (403, its own text), because the hook ranks first -/
example : serve ⟨Spec.documented⟩ ⟨["polling"], false, some "not today", false⟩ (fun _ => none)
    ⟨false, "GET", ["polling"], [], [], []⟩ = .reject 403 4 "not today" 1 := by
  decide +kernel

end EIO.Admit
