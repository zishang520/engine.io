import EIO.Model.Route
/-
C05 (routing half) — a request reaches the engine exactly when its cleaned path
matches the attached engine pattern most specifically; everything else goes to
the application's handlers untouched. For every registration sequence (any
number of application patterns, registered before or after the engine), every
attach option combination and every path.
-/
namespace EIO.Route
open EIO

/-- `mux.es` is sorted from longest to shortest -/
def SortedDesc (es : List Entry) : Prop :=
  es.Pairwise fun a b => b.pattern.length ≤ a.pattern.length

theorem mem_appendSorted (es : List Entry) (e x : Entry) :
    x ∈ appendSorted es e ↔ x = e ∨ x ∈ es := by
  induction es with
  | nil => simp [appendSorted]
  | cons a rest ih =>
    unfold appendSorted
    split
    · simp
    · simp only [List.mem_cons, ih, or_left_comm]

theorem appendSorted_sorted (es : List Entry) (e : Entry) (h : SortedDesc es) :
    SortedDesc (appendSorted es e) := by
  induction es with
  | nil => exact List.pairwise_singleton _ _
  | cons a rest ih =>
    obtain ⟨ha, hrest⟩ := List.pairwise_cons.mp h
    rw [appendSorted]
    split
    · next hlt =>
      have hlt := Nat.le_of_lt hlt
      exact List.pairwise_cons.mpr ⟨List.forall_mem_cons.mpr ⟨hlt, fun b hb => Nat.le_trans (ha b hb) hlt⟩, h⟩
    · next hge =>
      refine List.pairwise_cons.mpr ⟨fun b hb => ?_, ih hrest⟩
      rcases (mem_appendSorted rest e b).mp hb with rfl | hb
      · exact Nat.le_of_not_lt hge
      · exact ha b hb

/-- invariant of a mux built by `Handle` calls from the registration list `regs` -/
structure Mux.Inv (m : Mux) (regs : List Entry) : Prop where
  sorted : SortedDesc m.es
  exact_iff : ∀ e, e ∈ m.exact ↔ (e ∈ regs ∧ endsSlash e.pattern = false)
  es_iff : ∀ e, e ∈ m.es ↔ (e ∈ regs ∧ endsSlash e.pattern = true)
  distinct : (regs.map (·.pattern)).Nodup

theorem Mux.empty_inv : ({} : Mux).Inv [] :=
  ⟨by simp [SortedDesc], by simp, by simp, by simp⟩

theorem Mux.Inv.mem_patterns {m : Mux} {regs : List Entry} (h : m.Inv regs) (p : Path) :
    p ∈ m.patterns ↔ p ∈ regs.map (·.pattern) := by
  simp only [Mux.patterns, List.mem_map, List.mem_append, h.exact_iff, h.es_iff]
  refine exists_congr fun x => and_congr_left fun _ => ?_
  cases endsSlash x.pattern <;> simp

theorem Mux.handle_inv {m m' : Mux} {regs : List Entry} {e : Entry} (h : m.Inv regs)
    (hh : m.handle e = some m') : m'.Inv (regs ++ [e]) := by
  unfold Mux.handle at hh
  split at hh
  · cases hh
  · rename_i hok
    have hdist : ((regs ++ [e]).map (·.pattern)).Nodup := by
      rw [List.map_append, List.nodup_append]
      refine ⟨h.distinct, by simp, ?_⟩
      rintro a ha _ hb rfl
      rw [List.map_cons, List.map_nil, List.mem_singleton] at hb
      exact hok (.inr ((h.mem_patterns _).mpr (hb ▸ ha)))
    -- membership in either part: only whether `e` itself ends in a slash is new
    have key : ∀ x b, (x = e ∧ endsSlash x.pattern = b) ↔ (x = e ∧ endsSlash e.pattern = b) :=
      fun x b => and_congr_right fun hx => by rw [hx]
    split at hh <;> cases hh <;> rename_i hsl
    · refine ⟨appendSorted_sorted _ _ h.sorted, fun x => ?_, fun x => ?_, hdist⟩ <;>
        simp [mem_appendSorted, h.exact_iff, h.es_iff, or_and_right, key, hsl, or_comm]
    · refine ⟨h.sorted, fun x => ?_, fun x => ?_, hdist⟩ <;>
        simp [h.exact_iff, h.es_iff, or_and_right, key, hsl]

/-- **every registration sequence** that `Handle` accepts yields a mux whose
    prefix list is sorted longest first and holds exactly the registered
    patterns -/
theorem Mux.handleAll_inv {regs : List Entry} {m m' : Mux} {done : List Entry} (h : m.Inv done)
    (hh : m.handleAll regs = some m') : m'.Inv (done ++ regs) := by
  induction regs generalizing m done with
  | nil => cases hh; rwa [List.append_nil]
  | cons e rest ih =>
    rw [Mux.handleAll] at hh
    split at hh
    · cases hh
    · next m1 h1 => simpa using ih (Mux.handle_inv h h1) hh

/-- `match`'s loop over `mux.es` is `List.find?` -/
theorem matchEs_eq_find? (es : List Entry) (p : Path) :
    matchEs es p = es.find? fun e => e.pattern.isPrefixOf p := by
  induction es with
  | nil => rfl
  | cons a rest ih => rw [matchEs, List.find?_cons, ih]; cases a.pattern.isPrefixOf p <;> rfl

theorem matchEs_spec (es : List Entry) (p : Path) (hs : SortedDesc es) :
    (∀ e, matchEs es p = some e → e ∈ es ∧ e.pattern.isPrefixOf p = true ∧
        ∀ e' ∈ es, e'.pattern.isPrefixOf p = true → e'.pattern.length ≤ e.pattern.length) ∧
    (matchEs es p = none → ∀ e' ∈ es, e'.pattern.isPrefixOf p = false) := by
  rw [matchEs_eq_find?]
  refine ⟨fun e he => ?_, fun hn e' he' => Bool.eq_false_iff.mpr (List.find?_eq_none.mp hn e' he')⟩
  -- the first prefix in a list sorted longest first: those before it are no prefixes, those after it no longer
  obtain ⟨hp, as, bs, rfl, has⟩ := List.find?_eq_some_iff_append.mp he
  refine ⟨by simp, hp, fun e' he' hp' => ?_⟩
  rcases List.mem_append.mp he' with h | h
  · have := has e' h
    rw [hp'] at this
    cases this
  · rcases List.mem_cons.mp h with rfl | h
    · exact Nat.le_refl _
    · exact (List.pairwise_cons.mp (List.pairwise_append.mp hs).2.1).1 e' h

/-- **C05 routing: most specific registered pattern wins.** For a mux built by
    any accepted registration sequence `regs` and any (cleaned) path `p`:
    the request is served by entry `e` iff `e` is registered and either its
    pattern is exactly `p` (no trailing slash), or `p` is not registered exactly
    and `e` is a trailing-slash pattern prefixing `p` that no registered
    trailing-slash prefix of `p` is longer than; it goes to the default handler
    iff nothing registered matches. -/
theorem c05_route (regs : List Entry) (m : Mux) (hm : ({} : Mux).handleAll regs = some m) (p : Path) :
    (∀ e, m.match p = some e →
        e ∈ regs ∧
        ((endsSlash e.pattern = false ∧ e.pattern = p) ∨
         (endsSlash e.pattern = true ∧ e.pattern.isPrefixOf p = true ∧
          (∀ x ∈ regs, endsSlash x.pattern = false → x.pattern ≠ p) ∧
          ∀ x ∈ regs, endsSlash x.pattern = true → x.pattern.isPrefixOf p = true →
            x.pattern.length ≤ e.pattern.length))) ∧
    (m.match p = none →
        (∀ x ∈ regs, endsSlash x.pattern = false → x.pattern ≠ p) ∧
        ∀ x ∈ regs, endsSlash x.pattern = true → x.pattern.isPrefixOf p = false) := by
  have inv : m.Inv regs := Mux.handleAll_inv Mux.empty_inv hm
  obtain ⟨hes1, hes2⟩ := matchEs_spec m.es p inv.sorted
  unfold Mux.match
  cases hf : m.exact.find? (·.pattern = p) with
  | some e0 =>
    refine ⟨fun e he => ?_, fun hn => nomatch hn⟩
    cases he
    obtain ⟨h1, h2⟩ := (inv.exact_iff e0).mp (List.mem_of_find?_eq_some hf)
    exact ⟨h1, .inl ⟨h2, by simpa using List.find?_some hf⟩⟩
  | none =>
    have hnoexact : ∀ x ∈ regs, endsSlash x.pattern = false → x.pattern ≠ p := fun x hx hsl =>
      of_decide_eq_false (Bool.eq_false_iff.mpr
        (List.find?_eq_none.mp hf x ((inv.exact_iff x).mpr ⟨hx, hsl⟩)))
    refine ⟨fun e he => ?_,
      fun hn => ⟨hnoexact, fun x hx hxs => hes2 hn x ((inv.es_iff x).mpr ⟨hx, hxs⟩)⟩⟩
    obtain ⟨h1, h2, h3⟩ := hes1 e he
    obtain ⟨hr, hsl⟩ := (inv.es_iff e).mp h1
    exact ⟨hr, .inr ⟨hsl, h2, hnoexact, fun x hx hxs => h3 x ((inv.es_iff x).mpr ⟨hx, hxs⟩)⟩⟩

/-- the pattern an entry is served under is unique: two registered
    trailing-slash prefixes of one path with the same length are the same
    pattern, so "no longer prefix" determines the winner -/
theorem prefix_same_length_eq (a b p : Path) (ha : a.isPrefixOf p = true) (hb : b.isPrefixOf p = true)
    (hl : a.length = b.length) : a = b := by
  have ha := List.isPrefixOf_iff_prefix.mp ha
  have hb := List.isPrefixOf_iff_prefix.mp hb
  exact (List.prefix_of_prefix_length_le ha hb (Nat.le_of_eq hl)).eq_of_length hl

/-- **default mount**: with no attach options, with server-only options (which
    carry no attach options), and with attach options that set nothing, the
    engine is mounted on "/engine.io/" -/
theorem c05_default_mount :
    computePath none = defaultPath ++ [slash] ∧
    computePath (some {}) = defaultPath ++ [slash] ∧
    computePath (some { addTrailingSlash := some true }) = defaultPath ++ [slash] ∧
    computePath (some { addTrailingSlash := some false }) = defaultPath := by
  decide

/-- a configured path is mounted with exactly one trailing slash unless the
    option turns it off, whatever slashes the configured path ends with -/
theorem c05_mount_configured (p : Path) (b : Option Bool) :
    computePath (some { path := some p, addTrailingSlash := b }) =
      if b = some false then trimRightSlash p else trimRightSlash p ++ [slash] := by
  unfold computePath
  cases b with
  | none => simp
  | some v => cases v <;> simp

theorem defaultPath_is : String.fromUTF8? ⟨defaultPath.toArray⟩ = some "/engine.io" := by decide +kernel

/-- non-vacuity: application patterns "/" and "/engine.io/admin/" registered
    after the engine; "/engine.io/x" reaches the engine (id 0), "/engine.io/admin/y"
    the admin handler (id 2), "/other" the root handler (id 1) -/
example :
    let e (s : String) (h : Nat) : Entry := ⟨s.toUTF8.toList, h⟩
    let m := (({} : Mux).handleAll [e "/engine.io/" 0, e "/" 1, e "/engine.io/admin/" 2])
    (m.bind fun m => (m.route "/engine.io//x".toUTF8.toList).map (·.h)) = some 0 ∧
    (m.bind fun m => (m.route "/engine.io/admin/y".toUTF8.toList).map (·.h)) = some 2 ∧
    (m.bind fun m => (m.route "/a/../other".toUTF8.toList).map (·.h)) = some 1 := by
  decide +kernel

end EIO.Route
