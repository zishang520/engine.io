import EIO.Lemmas.Reach
/-
C06: "an admitted handshake creates exactly one session and announces it with exactly one connection event".

For every history: the session log holds at most one `connection` entry per session, and every `connection` entry
names an existing session (`c06_at_most_one_connection_event`, `c06_connection_event_names_a_session`); only a
handshake writes one (`step_conn`: every other operation creates no record and logs no `connection` entry).
For every model state: an admitted WebSocket handshake creates exactly one session record, number `socks.size`,
and logs exactly one `connection` entry, for that session (`c06_ws_handshake_one_session_one_event`).
-/
namespace EIO.Ses
open EIO EIO.Codec

/-- C06: at most one connection event per session, in any history -/
theorem c06_at_most_one_connection_event (o : Opts) (ops : List Op) (sid : Nat) :
    (connEntries sid (run o ops).slog).length ≤ 1 := (reach_conn o ops).once sid

/-- C06: a connection event names a session that exists -/
theorem c06_connection_event_names_a_session (o : Opts) (ops : List Op) (e : Nat × SEv)
    (h : e ∈ (run o ops).slog) (hc : e.2.isConnection = true) : e.1 < (run o ops).socks.size :=
  (reach_conn o ops).named e h hc

/-- C06: an admitted WebSocket handshake creates exactly one session record and logs exactly one connection entry,
    that session's -/
theorem c06_ws_handshake_one_session_one_event (w : World) (proto : Nat) (b64 : Bool)
    (ht : w.o.transports.contains "websocket" = true) (hp : ¬ (proto = 3 ∧ ¬ w.o.eio3 = true)) :
    (hsWebsocket w proto b64).socks.size = w.socks.size + 1 ∧
    ∃ pre e, (hsWebsocket w proto b64).slog = w.slog ++ pre ++ [(w.socks.size, e)] ∧ e.isConnection = true ∧
      ∀ x ∈ pre, x.2.isConnection = false := by
  unfold hsWebsocket
  simp only [ht, not_true_eq_false, if_false, hp]
  exact openSession_log _ _ _

/-- the same for a polling handshake -/
theorem c06_polling_handshake_one_session_one_event (w : World) (proto : Nat) (b64 : Bool) (j : Option Bytes)
    (ht : w.o.transports.contains "polling" = true) (hp : ¬ (proto = 3 ∧ ¬ w.o.eio3 = true)) :
    (hsPolling w proto b64 j).socks.size = w.socks.size + 1 ∧
    ∃ pre e, (hsPolling w proto b64 j).slog = w.slog ++ pre ++ [(w.socks.size, e)] ∧ e.isConnection = true ∧
      ∀ x ∈ pre, x.2.isConnection = false := by
  unfold hsPolling
  simp only [ht, not_true_eq_false, if_false, hp]
  have c := only_onPollRequest routine_noConn trivial w.trs.size w.reqs.size (Only.refl ({ ({ w with reqs := w.reqs.push { hasSid := false } } : World) with
      trs := w.trs.push { isPolling := true, proto, b64, jsonp := j.map jsonpDigits } } : World))
  obtain ⟨hsz, pre, e, hl, he, hn⟩ := openSession_log (onPollRequest ({ ({ w with reqs := w.reqs.push { hasSid := false } } : World) with
      trs := w.trs.push { isPolling := true, proto, b64, jsonp := j.map jsonpDigits } } : World) w.trs.size w.reqs.size) w.trs.size proto
  obtain ⟨pre0, hl0, hn0⟩ := c.log
  have hs0 := c.size id
  refine ⟨by rw [hsz, hs0], pre0 ++ pre, e, ?_, he, fun x hx => ?_⟩
  · rw [hl, hl0, hs0]
    simp [List.append_assoc]
  · rcases List.mem_append.mp hx with h | h
    · exact hn0 x h
    · exact hn x h

/-- non-vacuity: two handshakes, one connection entry each -/
example :
    let w := run {} [.hsWebsocket 4 false, .hsPolling 4 false none, .settle]
    (connEntries 0 w.slog).length = 1 ∧ (connEntries 1 w.slog).length = 1 ∧ w.socks.size = 2 := by decide +kernel

end EIO.Ses
