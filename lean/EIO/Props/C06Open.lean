import EIO.Lemmas.OnlyNamed
import EIO.Props.Session
/-
C06, "the first packet the client receives is an open packet whose JSON carries … ; a configured initial packet is
delivered as the first message right after it": the packets a new session *accepts* begin with the open packet built
from the configuration, followed by the configured initial packet and nothing else — for every model state
(`c06_open_packet_then_initial`); in every reachable world a new session's account starts empty, so these are its first
packets (`c06_first_packets_of_a_new_session`). With C01's whole-history theorems (what is handed to the transport is a
prefix of what was accepted, in order) the open packet is the first thing on the wire.
The upgrades list the open packet advertises: `c06_upgrades_*`.
-/
namespace EIO.Ses
open EIO EIO.Codec

/-- `sendPacket` on a session that accepts packets: exactly one `packetCreate`, of that packet; no session record is
    created -/
theorem sendPacket_created (w : World) (sid : Nat) (p : Pkt) (cb : Option Nat)
    (h : ¬ ((w.sock sid).rs = .closing ∨ (w.sock sid).rs = .closed ∨ w.socks.size ≤ sid)) :
    createdPkts sid (sendPacket w sid p cb).slog = createdPkts sid w.slog ++ [p] ∧
    (sendPacket w sid p cb).socks.size = w.socks.size := by
  unfold sendPacket
  simp only [h, if_false]
  -- everything `flush` does logs no `packetCreate`
  generalize hf : flush _ sid = wf
  have h1 : Only (.allBut SEv.isPC False) (w.sev sid (.packetCreate p cb)) wf :=
    hf ▸ only_flush routine_noPC sid (only_setSock sid _ (Only.refl _))
  refine ⟨?_, (h1.size id).trans (congrArg Array.size (socks_sev w sid _))⟩
  rw [h1.proj_eq (fun e => by cases e <;> first | exact fun _ => rfl | exact nofun), slog_sev, proj_snoc_self]
  rfl

/-- the open packet of session `sid` on a transport named `nm` -/
def openPkt (w : World) (sid : Nat) (nm : String) : Pkt :=
  { typ := .open, data := some ⟨.text, jsonOpen w sid nm⟩, compress := true }

/-- the configured initial packet, as a message -/
def initialPkts (o : Opts) : List Pkt :=
  match o.initial with
  | some d => [{ typ := .message, data := some ⟨.text, d⟩, compress := true }]
  | none => []

/-- the configuration does not change under `sendPacket` -/
theorem sendPacket_o (w : World) (sid : Nat) (p : Pkt) (cb : Option Nat) : (sendPacket w sid p cb).o = w.o :=
  (only_sendPacket (M := .allBut SEv.isNever False) routine_never sid p cb rfl (Only.refl w)).o

/-- `onOpen`: an open session that is not waiting to close accepts the open packet, then the configured initial
    packet, and nothing else -/
theorem c06_open_packet_then_initial (w : World) (sid : Nat) (nm : String)
    (ho : (w.sock sid).rs = .open_) (hs : sid < w.socks.size) (hd : (w.sock sid).drainClose = none) :
    createdPkts sid (openPackets w sid nm).slog =
      createdPkts sid w.slog ++ openPkt w sid nm :: initialPkts w.o := by
  rw [← sendPacket_o w sid (openPkt w sid nm) none]
  have h1 : ¬ ((w.sock sid).rs = .closing ∨ (w.sock sid).rs = .closed ∨ w.socks.size ≤ sid) := by
    simp [ho]; omega
  obtain ⟨c1, z1⟩ := sendPacket_created w sid (openPkt w sid nm) none h1
  have k1 := (sendPacket_quiet w sid (openPkt w sid nm) none hd).rs sid
  unfold openPackets
  show createdPkts sid (match (sendPacket w sid (openPkt w sid nm) none).o.initial with
    | some d => sendPacket (sendPacket w sid (openPkt w sid nm) none) sid { typ := .message, data := some ⟨.text, d⟩, compress := true } none
    | none => sendPacket w sid (openPkt w sid nm) none).slog = _
  unfold initialPkts
  cases hi : (sendPacket w sid (openPkt w sid nm) none).o.initial with
  | none => simp only; rw [c1]
  | some d =>
    simp only
    have h2 : ¬ (((sendPacket w sid (openPkt w sid nm) none).sock sid).rs = .closing ∨
        ((sendPacket w sid (openPkt w sid nm) none).sock sid).rs = .closed ∨
        (sendPacket w sid (openPkt w sid nm) none).socks.size ≤ sid) := by
      simp [k1, ho, z1]; omega
    rw [(sendPacket_created _ sid _ none h2).1, c1]
    simp

/-- a session record that has just been pushed, opened and attached to its transport -/
theorem c06_open_packets_of_openSession (w : World) (ti proto : Nat) :
    ∃ w1 : World, w1.slog = w.slog ∧ w1.socks.size = w.socks.size + 1 ∧
      createdPkts w.socks.size (openSession w ti proto).slog =
        createdPkts w.socks.size w.slog ++
          openPkt w1 w.socks.size (w.tr ti).name :: initialPkts w.o ∧ w1.o = w.o := by
  refine ⟨(({ w with socks := w.socks.push { proto, tr := ti } } : World).setTr ti
      fun t => { t with role := .current w.socks.size, owner := w.socks.size }).setSock w.socks.size fun s => { s with rs := .open_ }, rfl, by simp, ?_, rfl⟩
  unfold openSession; dsimp only
  generalize hcore : World.setSock _ w.socks.size _ = wc
  have hsz : wc.socks.size = w.socks.size + 1 := by rw [← hcore]; simp
  have hlg : wc.slog = w.slog := by rw [← hcore]; rfl
  have hwo : wc.o = w.o := by rw [← hcore]; rfl
  have hsock : wc.sock w.socks.size = { proto, tr := ti, rs := .open_ } := by
    rw [← hcore, sock_setSock, sock_setTr]
    have : (({ w with socks := w.socks.push { proto, tr := ti } } : World)).sock w.socks.size = { proto, tr := ti } := by
      unfold World.sock; exact getD_push_eq _ _ _
    simp [this]
  have hc := c06_open_packet_then_initial wc w.socks.size (w.tr ti).name (by rw [hsock]) (by omega) (by rw [hsock])
  generalize openPackets wc w.socks.size (w.tr ti).name = wp at hc ⊢
  unfold openAnnounce; dsimp only
  rw [slog_sev, proj_snoc_self]; dsimp only [fCreatedPkt]
  rw [slog_setSock, List.append_nil, ← hlg, ← hwo]
  exact hc

/-- in every reachable world a session that does not exist yet has no packets: the open packet (and the initial
    packet) are the first packets of a new session -/
theorem c06_first_packets_of_a_new_session (o : Opts) (ops : List Op) :
    createdPkts (run o ops).socks.size (run o ops).slog = [] := by
  have i := (reach_inv o ops).acc.fresh
  apply proj_empty_of_fresh
  · intro e he; exact (neutral_created e he).1
  · intro e he hn hs
    have := i e he hn
    omega

/-- the upgrades the open packet advertises: none on a transport that is not polling, none when upgrades are disabled -/
theorem c06_upgrades_empty (w : World) (sid : Nat) (nm : String) (h : ¬ (w.o.upgrades = true ∧ nm = "polling")) :
    jsonOpen w sid nm =
      (s!"\{\"maxPayload\":{w.o.maxPayload},\"pingInterval\":{w.o.I},\"pingTimeout\":{w.o.T},\"sid\":\"").toUTF8.toList
        ++ sidBytes sid ++ ("\",\"upgrades\":[]}").toUTF8.toList := by
  unfold jsonOpen
  simp only [h, if_false]
  rfl

/-- on polling with upgrades allowed: exactly the upgrade targets of polling that are enabled on the server -/
theorem c06_upgrades_of_polling (w : World) (sid : Nat) (h : w.o.upgrades = true) :
    jsonOpen w sid "polling" =
      (s!"\{\"maxPayload\":{w.o.maxPayload},\"pingInterval\":{w.o.I},\"pingTimeout\":{w.o.T},\"sid\":\"").toUTF8.toList
        ++ sidBytes sid ++ ("\",\"upgrades\":" ++ ("[" ++ ",".intercalate
          ((["websocket", "webtransport"].filter fun u => w.o.transports.contains u).map fun u => "\"" ++ u ++ "\"") ++ "]") ++ "}").toUTF8.toList := by
  unfold jsonOpen
  simp only [h, true_and, if_true]

/-- non-vacuity: a polling handshake with an initial packet configured: the new session's packets are the open packet
    and then the initial packet -/
example :
    let o : Opts := { initial := some "hello".toUTF8.toList }
    let w := run o [.hsPolling 4 false none]
    (createdPkts 0 w.slog).map (·.typ) = [.open, .message] := by
  decide +kernel

end EIO.Ses
