import EIO.Lemmas.Firings
import EIO.Lemmas.OnlyNamed
/-
C07, "closes with reason ping timeout at that deadline and never before; a client that answers every ping in
time is never closed for ping timeout" — over whole histories:

* `c07_only_the_clock_times_out`: no operation other than the passing of time appends a `close ping_timeout` entry
  (handshakes, polls, data requests and frames of any content, aborts, candidates, drops, close frames, application
  sends and closes, shutdown, writer tasks), in any model state.
* inside `adv`, the clock fires a list of timers (`advFirings`); `c07_timeout_needs_its_deadline_timer`: if no
  deadline timer is among them, nobody is closed for ping timeout; `c07_deadline_timer_was_armed_and_due`: a deadline
  timer that is fired was armed for that session (`pingTimeoutDue = some t`), `t` is not after the target of the
  advance, and the clock at the firing is at or after `t` — exactly `t` unless the clock had passed it already.
  So a session whose deadline is cancelled by a pong (`c07_pong_rearms`) or lies beyond the target is not closed.
-/
namespace EIO.Ses
open EIO EIO.Codec

def SEv.isPT : SEv → Bool
  | .close r _ => r == "ping_timeout"
  | _ => false

def noPT : May := .allBut SEv.isPT

theorem routine_noPT : Routine noPT.log := by constructor <;> intros <;> rfl

/-- the sessions closed for ping timeout, in log order -/
def ptCloses (l : List (Nat × SEv)) : List Nat := (l.filter fun e => e.2.isPT).map Prod.fst

theorem ptCloses_of_only {w w' : World} (h : Only noPT w w') : ptCloses w'.slog = ptCloses w.slog := by
  obtain ⟨added, hl, hn⟩ := h.log
  have : added.filter (fun e => e.2.isPT) = [] := by
    apply List.filter_eq_nil_iff.2
    intro e he; simp [show e.2.isPT = false from hn e he]
  simp [ptCloses, hl, List.filter_append, this]

/-- **only the clock closes a session for ping timeout** -/
theorem c07_only_the_clock_times_out (w : World) (op : Op) (h : ∀ d, op ≠ .adv d) :
    ptCloses (step w op).slog = ptCloses w.slog := by
  refine ptCloses_of_only (only_step routine_noPT w op ?_)
  exact May.covers_of_full ⟨trivial, fun _ => rfl, fun _ _ _ => rfl⟩
    (fun _ => ⟨fun _ => ⟨rfl, rfl⟩, fun _ => rfl, fun _ _ => rfl, fun _ => rfl, fun _ => rfl⟩) (fun _ _ => rfl) op
    (fun _ => trivial) (fun d hd => absurd hd (h d)) fun _ => trivial

/-- **and the clock does it only by firing a deadline timer** -/
theorem c07_timeout_needs_its_deadline_timer (w : World) (fuel target : Nat)
    (h : ∀ x ∈ advFirings fuel w target, ∀ s, x.2.1 ≠ .pingTimeout s) :
    ptCloses (advance fuel w target).slog = ptCloses w.slog :=
  ptCloses_of_only (only_advance routine_noPT trivial fuel target (fun x hx => ⟨fun _ _ => rfl, fun s hs => absurd hs (h x hx s)⟩) (Only.refl w))

/-- **never before the deadline**: every timer the clock fires was due by the target and is fired with the clock at or
    after its due instant -/
theorem c07_fired_timers_were_due (w : World) (fuel target : Nat) :
    ∀ x ∈ advFirings fuel w target, x.1 ≤ target ∧ x.1 ≤ x.2.2.now :=
  advFirings_due fuel w target

/-- the first timer the clock fires: it was pending in the world the advance started from; a deadline timer among
    them was armed for that session with exactly that due instant, and the clock it is fired at is that instant
    unless the clock had passed it already -/
theorem c07_deadline_timer_was_armed_and_due (w w' : World) (fuel target t sid : Nat)
    (rest : List (Nat × TimerId × World))
    (h : advFirings fuel w target = (t, .pingTimeout sid, w') :: rest) :
    (w.sock sid).pingTimeoutDue = some t ∧ t ≤ target ∧ w'.now = max w.now t := by
  obtain ⟨hm, hw⟩ := advFirings_head_pending fuel w target t _ w' rest h
  refine ⟨(mem_dueTimers_ses hm).2 sid rfl, ?_, by rw [hw]⟩
  have := advFirings_due fuel w target (t, .pingTimeout sid, w') (by rw [h]; exact List.mem_cons_self)
  exact this.1

/-- the firing list of an advance is the first firing followed by the firing list of the rest of the advance: so the
    statement about the first firing speaks about every firing, each from the world it happens in -/
theorem advFirings_cons (fuel : Nat) (w : World) (target d : Nat) (id : TimerId)
    (h : earliest (dueTimers w) target = some (d, id)) :
    advFirings (fuel + 1) w target =
      (d, id, { w with now := max w.now d }) :: advFirings fuel (fireTimer { w with now := max w.now d } id) target := by
  rw [advFirings, h]

/-- the operations that carry packets a client sends -/
def Op.fromClient : Op → Bool
  | .post .. => true
  | .frame .. => true
  | _ => false

/-- **a heartbeat is accepted only from a packet the client sent**: no other operation — the clock with all its
    timers, polls, handshakes, candidates, drops, application calls, writer tasks — logs a `heartbeat` entry; in
    particular the server's own ping does not count as the peer's answer -/
theorem c07_heartbeat_only_from_client_packets (w : World) (op : Op) (h : op.fromClient = false) :
    (step w op).slog.filter (fun e => e.2.isHb) = w.slog.filter (fun e => e.2.isHb) := by
  have hm := step_of_not_submits SEv.isHb (by constructor <;> intros <;> rfl) (fun _ _ => rfl) (fun _ _ _ => rfl) (fun _ => rfl) w op
    (by cases op <;> first | rfl | cases h)
  obtain ⟨added, hl, hn⟩ := hm.log
  have : added.filter (fun e => e.2.isHb) = [] := by
    apply List.filter_eq_nil_iff.2
    intro e he; simp [show e.2.isHb = false from hn e he]
  rw [hl, List.filter_append, this, List.append_nil]

/-- the pending timers do not depend on the clock -/
theorem dueTimers_now (w : World) (n : Nat) : dueTimers ({ w with now := n } : World) = dueTimers w := rfl

/-- **every timer due by the target fires, unless the fuel of `advance` was used up**: if `advance` fired fewer timers
    than its fuel allows, no pending timer is due at or before the clock it leaves behind. (The driver evaluates the
    conclusion in every world the correspondence visits — token `LATE!` — so an exhausted fuel cannot pass unnoticed.) -/
theorem c07_every_due_timer_fired_unless_fuel_ran_out (fuel : Nat) : ∀ (w : World) (target : Nat),
    advanceUsed fuel w target < fuel →
    earliest (dueTimers (advance fuel w target)) target = none ∧ (advance fuel w target).now = target := by
  induction fuel with
  | zero => intro w target h; exact absurd h (Nat.not_lt_zero _)
  | succ f ih =>
    intro w target h
    rw [advance]
    rw [advanceUsed] at h
    cases he : earliest (dueTimers w) target with
    | none => exact ⟨by rw [dueTimers_now]; exact he, rfl⟩
    | some r =>
      obtain ⟨d, id⟩ := r
      rw [he] at h
      simp only at h ⊢
      exact ih _ _ (by omega)

/-- the number of firings is the length of the firing list -/
theorem advanceUsed_eq_firings (fuel : Nat) : ∀ (w : World) (target : Nat),
    advanceUsed fuel w target = (advFirings fuel w target).length := by
  induction fuel with
  | zero => intro w target; rfl
  | succ f ih =>
    intro w target
    rw [advanceUsed, advFirings]
    cases he : earliest (dueTimers w) target with
    | none => rfl
    | some r =>
      obtain ⟨d, id⟩ := r
      simp only [List.length_cons]
      rw [ih]; omega

/-- non-vacuity: a silent revision-4 websocket session: the first advance fires the ping, the second the deadline
    timer — at 25000 + 20000 exactly — and the session is closed for ping timeout then, not before -/
example :
    let w := run {} [.hsWebsocket 4 false, .settle, .adv 25000, .settle]
    ptCloses w.slog = [] ∧ (w.sock 0).pingTimeoutDue = some 45000 ∧
    ptCloses (step w (.adv 19999)).slog = [] ∧
    ptCloses (step w (.adv 20000)).slog = [0] ∧
    (advFirings 64 w 45000).map (fun x => (x.1, x.2.2.now)) = [(45000, 45000)] := by
  decide +kernel

end EIO.Ses
