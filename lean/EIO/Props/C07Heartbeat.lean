import EIO.Props.C12Close
/-
C07: the heartbeat rules of the model, stated outright (every model state that
meets the stated guard; `I` = ping interval, `T` = ping timeout, `now` = the
virtual instant of the call).
-/
namespace EIO.Ses
open EIO EIO.Codec

/-- revision 4: an accepted pong cancels the deadline and schedules the next ping one interval later -/
theorem c07_pong_rearms (w : World) (sid : Nat) (hsz : sid < w.socks.size)
    (hopen : (w.sock sid).rs = .open_) (hv4 : (w.sock sid).proto ≠ 3) :
    ((sockOnPacket w sid { typ := .pong }).sock sid).pingTimeoutDue = none ∧
    ((sockOnPacket w sid { typ := .pong }).sock sid).pingIntervalDue = some (w.now + w.o.I) ∧
    ((sockOnPacket w sid { typ := .pong }).sock sid).rs = .open_ ∧
    (sockOnPacket w sid { typ := .pong }).slog = w.slog ++ [(sid, .packet .pong), (sid, .heartbeat)] := by
  unfold sockOnPacket
  simp only [hopen, hv4, ne_eq, not_true_eq_false, if_false]
  rw [sock_sev, sock_setSock, slog_sev, slog_setSock, slog_sev]
  simp [hsz, hopen]

/-- revision 4: a ping from the client is a heartbeat in the wrong direction: the session closes -/
theorem c07_wrong_direction_v4 (w : World) (sid : Nat) (hsz : sid < w.socks.size)
    (hopen : (w.sock sid).rs = .open_) (hv4 : (w.sock sid).proto ≠ 3) :
    ((sockOnPacket w sid { typ := .ping }).sock sid).rs = .closed := by
  unfold sockOnPacket
  simp only [hopen, hv4, ne_eq, not_true_eq_false, if_false, not_false_eq_true, if_true]
  exact sockOnClose_closed _ _ sid _ (by rw [sock_sev, hopen]; simp) (by simpa using hsz)

/-- revision 3: a pong from the client is a heartbeat in the wrong direction: the session closes -/
theorem c07_wrong_direction_v3 (w : World) (sid : Nat) (hsz : sid < w.socks.size)
    (hopen : (w.sock sid).rs = .open_) (hv3 : (w.sock sid).proto = 3) :
    ((sockOnPacket w sid { typ := .pong }).sock sid).rs = .closed := by
  unfold sockOnPacket
  simp only [hopen, hv3, ne_eq, not_true_eq_false, if_false, if_true]
  exact sockOnClose_closed _ _ sid _ (by rw [sock_sev, hopen]; simp) (by simpa using hsz)

/-- revision 3: a ping from the client moves the deadline to interval + timeout from now -/
theorem c07_v3_ping_moves_deadline (w : World) (sid : Nat) (hsz : sid < w.socks.size)
    (hopen : (w.sock sid).rs = .open_) (hv3 : (w.sock sid).proto = 3) (hdc : (w.sock sid).drainClose = none) :
    ((sockOnPacket w sid { typ := .ping }).sock sid).pingTimeoutDue = some (w.now + w.o.I + w.o.T) := by
  unfold sockOnPacket
  simp only [hopen, hv3, ne_eq, not_true_eq_false, if_false]
  generalize hw1 : World.setSock _ sid _ = w1
  have e1 : w1.sock sid = { w.sock sid with pingTimeoutDue := some (w.now + w.o.I + w.o.T) } := by
    subst w1; rw [sock_setSock, if_pos ⟨rfl, by rw [socks_sev]; exact hsz⟩, sock_sev, now_sev, o_sev]
  obtain ⟨_, _, _, e⟩ := (sendPacket_buffers w1 sid { typ := .pong, compress := true } none (by rw [e1]; exact hdc)).sock sid
  rw [sock_sev, e, e1]

/-- the ping timer fires on a live session: the pong is due one timeout from now (revision 3: interval + timeout),
    and no further ping is scheduled until a pong arrives -/
theorem c07_ping_sets_deadline (w : World) (sid : Nat) (hsz : sid < w.socks.size)
    (hdc : (w.sock sid).drainClose = none) :
    ((fireTimer w (.pingInterval sid)).sock sid).pingTimeoutDue =
      some (w.now + (if (w.sock sid).proto = 3 then w.o.I + w.o.T else w.o.T)) ∧
    ((fireTimer w (.pingInterval sid)).sock sid).pingIntervalDue = none := by
  rw [fireTimer]
  generalize hw1 : w.setSock sid _ = w1
  have e1 : w1.sock sid = { w.sock sid with pingIntervalDue := none } := by
    subst w1; rw [sock_setSock, if_pos ⟨rfl, hsz⟩]
  have q := sendPacket_buffers w1 sid { typ := .ping, compress := true } none (by rw [e1]; exact hdc)
  obtain ⟨_, _, _, e⟩ := q.sock sid
  rw [sock_setSock, if_pos ⟨rfl, by rw [q.size, ← hw1, socks_size_setSock]; exact hsz⟩, q.now, q.o, e, e1, ← hw1]
  exact ⟨rfl, rfl⟩

/-- the deadline passes on a live session: it closes -/
theorem c07_timeout_closes (w : World) (sid : Nat) (hsz : sid < w.socks.size) (hnc : (w.sock sid).rs ≠ .closed) :
    ((fireTimer w (.pingTimeout sid)).sock sid).rs = .closed := by
  simp only [fireTimer]
  have h1 : ((w.setSock sid fun s => { s with pingTimeoutDue := none }).sock sid).rs ≠ .closed := by
    rw [sock_setSock]; split <;> simpa using hnc
  simp only [h1, if_false]
  exact sockOnClose_closed _ _ sid _ h1 (by simpa using hsz)

end EIO.Ses
