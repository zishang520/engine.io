import EIO.Lemmas.Reach
/-
C07, for every history: the heartbeat timers of a session are an invariant of every reachable world.

  * a session that has been announced, is not closed and has never been upgraded always has a heartbeat
    timer pending (the next ping or the deadline of the last one): a silent peer cannot leave a session
    without a clock (`c07_timer_always_pending`). An upgrade cancels a pending deadline by design
    (`clearTransport`), and a client that never answers the ping sent before it leaves the session without a
    timer: the property speaks of sessions that have never been upgraded.
  * a closed session has no heartbeat timer (`c07_closed_has_no_timer`): nothing fires after close.
  * a pending ping is never further away than the ping interval, a pending deadline never further than
    ping interval + ping timeout (`c07_ping_within_interval`, `c07_deadline_within_bound`); with
    `c07_timeout_closes` (the deadline closes the session when it fires) a silent peer is closed no later
    than that.
-/
namespace EIO.Ses
open EIO EIO.Codec

theorem c07_timer_always_pending (o : Opts) (ops : List Op) (sid : Nat)
    (ha : ((run o ops).sock sid).announced = true) (hnc : ((run o ops).sock sid).rs ≠ .closed)
    (hu : ((run o ops).sock sid).upgraded = false) :
    ((run o ops).sock sid).pingIntervalDue.isSome ∨ ((run o ops).sock sid).pingTimeoutDue.isSome :=
  (reach_hb o ops sid).pending (fun f => f) ha hnc hu

theorem c07_closed_has_no_timer (o : Opts) (ops : List Op) (sid : Nat) (hc : ((run o ops).sock sid).rs = .closed) :
    ((run o ops).sock sid).pingIntervalDue = none ∧ ((run o ops).sock sid).pingTimeoutDue = none :=
  (reach_hb o ops sid).closed hc

theorem c07_ping_within_interval (o : Opts) (ops : List Op) (sid d : Nat)
    (h : ((run o ops).sock sid).pingIntervalDue = some d) : d ≤ (run o ops).now + (run o ops).o.I :=
  (reach_hb o ops sid).pingBound d h

theorem c07_deadline_within_bound (o : Opts) (ops : List Op) (sid d : Nat)
    (h : ((run o ops).sock sid).pingTimeoutDue = some d) : d ≤ (run o ops).now + (run o ops).o.I + (run o ops).o.T :=
  (reach_hb o ops sid).deadBound d h

/-- non-vacuity: a revision-4 websocket session after its first ping, a polling session before it -/
example :
    let w := run {} [.hsWebsocket 4 false, .settle, .adv 25000, .settle, .hsPolling 4 false none, .settle]
    (w.sock 0).announced = true ∧ (w.sock 0).rs = .open_ ∧ (w.sock 0).upgraded = false ∧
    (w.sock 0).pingIntervalDue = none ∧ (w.sock 0).pingTimeoutDue = some 45000 ∧
    (w.sock 1).pingIntervalDue = some 50000 ∧ (w.sock 1).pingTimeoutDue = none := by decide +kernel

end EIO.Ses
