import EIO.Lemmas.Link
/-
C08, "failures never cost the session" (every model state): whatever ends a candidate other than the
upgrade packet — an unexpected packet, its connection closing or failing, the upgrade timeout — leaves
every session record exactly as it was, except that the session is no longer marked as upgrading and has
no candidate: same transport, same ready state, same write buffer, same timers; other sessions untouched.
-/
namespace EIO.Ses
open EIO EIO.Codec

/-- the session records after a candidate was given up -/
def afterCandidateFailure (w : World) (sid : Nat) (j : Nat) : Sock :=
  if j = sid then { (w.sock sid) with upgrading := false, cand := none } else w.sock j

theorem candCleanup_socks_after (w : World) (sid : Nat) (c : Cand) (hc : (w.sock sid).cand = some c) (j : Nat) :
    (candCleanup w sid).sock j = afterCandidateFailure w sid j := by
  unfold candCleanup afterCandidateFailure
  rw [hc]
  dsimp only
  rw [sock_setTr, sock_setSock]
  by_cases h : j = sid
  · rw [h, if_pos ⟨rfl, sock_exists_of_cand w sid c hc⟩, if_pos rfl]
  · rw [if_neg fun e => h e.1.symm, if_neg h]

/-- the cleanup has detached the candidate's transport: closing it afterwards changes no session record -/
theorem trCloseF_candCleanup (f : Nat) (w : World) (sid : Nat) (c : Cand) (hc : (w.sock sid).cand = some c) (j : Nat) :
    (trCloseF f (candCleanup w sid) c.tr none).sock j = afterCandidateFailure w sid j :=
  ((det_trCloseF (candCleanup_role hc) f (Detached.refl c.tr _)).sock j).trans (candCleanup_socks_after w sid c hc j)

/-- the candidate's error / close / transport-close listener -/
theorem c08_candidate_failure_costs_nothing (f : Nat) (w : World) (sid : Nat) (c : Cand)
    (hc : (w.sock sid).cand = some c) (j : Nat) :
    (candFail f w sid).sock j = afterCandidateFailure w sid j := by
  cases f with
  | zero => rw [candFail]; exact candCleanup_socks_after w sid c hc j
  | succ f =>
    rw [candFail, hc]
    exact trCloseF_candCleanup f w sid c hc j

/-- a packet on the candidate that is neither the probe nor the upgrade packet -/
theorem c08_unexpected_packet_costs_nothing (w : World) (sid : Nat) (c : Cand) (p : Pkt)
    (hc : (w.sock sid).cand = some c) (hp : isProbe p = false) (hu : p.typ ≠ .upgrade) (j : Nat) :
    (candOnPacket w sid p).sock j = afterCandidateFailure w sid j := by
  unfold candOnPacket
  simp only [hc, hp, Bool.false_eq_true, if_false, hu, false_and]
  exact trCloseF_candCleanup _ w sid c hc j

/-- the upgrade timeout -/
theorem c08_upgrade_timeout_costs_nothing (w : World) (sid : Nat) (c : Cand)
    (hc : (w.sock sid).cand = some c) (j : Nat) :
    (fireTimer w (.upgradeTimeout sid)).sock j = afterCandidateFailure w sid j := by
  simp only [fireTimer, hc]
  split
  · exact trCloseF_candCleanup _ w sid c hc j
  · exact candCleanup_socks_after w sid c hc j

/-- the candidate's connection goes away (transport "close" event with the candidate's listeners) -/
theorem c08_candidate_close_costs_nothing (f : Nat) (w : World) (ti sid : Nat) (c : Cand)
    (hr : (w.tr ti).role = .candidate sid) (hc : (w.sock sid).cand = some c) (j : Nat) :
    (trEmitClose (f + 1) w ti).sock j = afterCandidateFailure w sid j := by
  rw [trEmitClose]
  simp only [hr]
  exact c08_candidate_failure_costs_nothing f w sid c hc j

/-- a candidate for a session that is upgrading or already upgraded is closed, nothing else happens to the session -/
theorem c08_late_candidate_refused (w : World) (sid proto : Nat) (b64 : Bool)
    (hreg : w.registry.contains sid = true) (hu : (w.sock sid).upgrading = true ∨ (w.sock sid).upgraded = true) :
    (wsCandidate w sid proto b64).socks = w.socks ∧ (wsCandidate w sid proto b64).trs = w.trs := by
  unfold wsCandidate
  dsimp only
  split
  · exact ⟨(socks_setConn ..).trans (socks_setConn ..), (trs_setConn ..).trans (trs_setConn ..)⟩
  · rw [show lookup { w with conns := w.conns.push {} } sid = some (w.sock sid) from if_pos hreg]
    dsimp only
    rw [if_pos hu]
    exact ⟨socks_setConn .., trs_setConn ..⟩

end EIO.Ses
