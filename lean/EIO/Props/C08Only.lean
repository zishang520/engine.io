import EIO.Lemmas.OnlyNamed
import EIO.Lemmas.Acc
/-
C08, "a session's transport changes only upon an upgrade packet received on a candidate transport": at the level of
operations, only packets a client sends can upgrade a session — `c08_only_client_packets_upgrade`: every operation
that carries no client packet (handshakes, polls, aborts, new candidates, drops, close frames, application sends and
closes, shutdown, the clock with the upgrade timeout and the check interval, writer tasks) logs no `upgrade` entry, in
every model state; `c08_frame_without_upgrade_packet`: nor does a frame whose packet is not an upgrade packet.
With `c08_upgraded_iff_upgrade_event` (the session's `upgraded` flag is set exactly when the entry is logged) and
`c08_at_most_one_upgrade` this is the "only, explicit, at most once" clause for whole histories.
-/
namespace EIO.Ses
open EIO EIO.Codec

theorem upgradeCount_of_only {w w' : World} (h : Only (.allBut SEv.isUpg) w w') (sid : Nat) :
    upgradeCount sid w'.slog = upgradeCount sid w.slog :=
  congrArg List.length (h.proj_eq (fun e => by cases e <;> first | exact fun _ => rfl | exact nofun) sid)

/-- the operations that carry packets a client sends -/
def Op.carriesPackets : Op → Bool
  | .post .. => true
  | .frame .. => true
  | _ => false

/-- **only packets a client sends can upgrade a session** -/
theorem c08_only_client_packets_upgrade (w : World) (op : Op) (h : op.carriesPackets = false) (sid : Nat) :
    upgradeCount sid (step w op).slog = upgradeCount sid w.slog :=
  upgradeCount_of_only (step_of_not_submits SEv.isUpg routine_noUpg (fun _ _ => rfl) (fun _ _ _ => rfl) (fun _ => rfl) w op
    (by cases op <;> first | rfl | cases h)) sid

/-- a frame whose packet is not an upgrade packet upgrades nobody -/
theorem c08_frame_without_upgrade_packet (w : World) (c : Nat) (m : Msg)
    (h3 : (decodePacketV3 m).1.typ ≠ .upgrade) (h4 : (decodePacketV4 m).1.typ ≠ .upgrade) (sid : Nat) :
    upgradeCount sid (wsFrame w c m).1.slog = upgradeCount sid w.slog := by
  refine upgradeCount_of_only (only_wsFrame routine_noUpg c m (fun ti _ _ => ?_) (Only.refl w)) sid
  refine ⟨fun _ => ⟨rfl, rfl⟩, fun _ => rfl, fun _ _ => rfl, fun _ => rfl, fun hu => absurd hu ?_⟩
  split
  · exact h3
  · exact h4

/-- non-vacuity: the protocol-conformant sequence does upgrade, by the frame that carries the upgrade packet and by
    no operation before it -/
example :
    let w := run {} [.hsPolling 4 false none, .settle, .poll 0 [], .wsCandidate 0 4 false,
      .frame 0 ⟨.text, "2probe".toUTF8.toList⟩, .adv 100, .settle]
    upgradeCount 0 w.slog = 0 ∧ upgradeCount 0 (step w (.frame 0 ⟨.text, [0x35]⟩)).slog = 1 := by
  decide +kernel

end EIO.Ses
