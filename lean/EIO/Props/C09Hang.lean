import EIO.Lemmas.Only
/-
C09, "no sequence of client-controlled inputs can make the process … hang": the model records a hang of the process
(`World.fault`) in one place only, `pollOnData`, when the revision-3 *binary* payload decoder of the parser dependency
spins (known finding `C09/hang/v3-binary-body/…`, reproduced by the model and the implementation alike).
`c09_only_a_binary_body_can_hang`: every other operation — handshakes, polls, data requests with text content of any
bytes whatsoever, frames of any content, aborts, upgrade candidates, drops, close frames, application sends and
closes, shutdown, the clock, writer tasks — leaves `fault` as it was, in every model state; hence
(`c09_no_hang_without_a_binary_body`) a history without a binary data request never hangs the model, whatever else the
clients send. (A binary data request on a revision-4 session is refused before it is decoded; the model state it
reaches is that of `c11`'s 400 answer.)
-/
namespace EIO.Ses
open EIO EIO.Codec

def noHang : May := ⟨fun _ => True, True, False, True, True⟩

theorem c09_only_a_binary_body_can_hang (w : World) (op : Op) (h : op.binaryPost = false) :
    (step w op).fault = w.fault :=
  (only_step (routine_of_all fun _ => trivial) w op
    (May.covers_of_all (M := noHang) (fun _ => trivial) trivial op (fun hb => by rw [h] at hb; cases hb) (fun _ _ => trivial)
      fun _ => trivial)).fault id

/-- **no binary data request, no hang**: whatever else the clients, the application and the clock do -/
theorem c09_no_hang_without_a_binary_body (o : Opts) (ops : List Op) (h : ∀ op ∈ ops, op.binaryPost = false) :
    (run o ops).fault = none := by
  unfold run
  have : ∀ (w : World), w.fault = none → (∀ op ∈ ops, op.binaryPost = false) → (ops.foldl step w).fault = none := by
    induction ops with
    | nil => intro w hw _; exact hw
    | cons op rest ih =>
      intro w hw hall
      rw [List.foldl_cons]
      apply ih (fun op' hm => h op' (List.mem_cons_of_mem _ hm))
      · rw [c09_only_a_binary_body_can_hang w op (hall op List.mem_cons_self)]; exact hw
      · intro op' hm; exact hall op' (List.mem_cons_of_mem _ hm)
  exact this (init o) rfl h

/-- a binary data request on a revision-4 session is refused before anything is decoded: it cannot hang the model either -/
theorem c09_binary_body_on_v4_is_refused_undecoded (w : World) (sid : Nat) (declared : Bool) (body : Bytes) (vj : Bool)
    (h4 : (w.tr (w.sock sid).tr).proto = 4) :
    (postReq w sid true declared body vj).fault = w.fault := by
  refine (only_postReq (M := noHang) (routine_of_all fun _ => trivial) sid true declared body vj (fun d hb => ?_) (Only.refl w)).fault id
  exact absurd ⟨rfl, h4⟩ hb

/-- the finding itself, on the model: the 14-byte revision-3 binary body with a 12-digit length prefix -/
example :
    (run { eio3 := true } [.hsPolling 3 false none, .settle,
      .post 0 true true [0x00, 9, 9, 9, 9, 9, 9, 9, 9, 9, 9, 9, 9, 0xff] false]).fault = some "hang" := by
  decide +kernel

end EIO.Ses
