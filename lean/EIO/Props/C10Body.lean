import EIO.Lemmas.World
import EIO.Props.SessionLocal
/-
C10 on the polling transport (every model state): a request body longer than the limit is refused with 413
whether or not its length was declared, nothing of it reaches the application (the session log is unchanged),
no session or transport is touched, and the server has read at most limit + 1 bytes of it.
-/
namespace EIO.Ses
open EIO EIO.Codec

/-- what a refused body leaves behind: log, sessions and transports as they were, the request (number `w.reqs.size`)
    answered 413, at most limit + 1 bytes of it read -/
def BodyRefused (w w' : World) : Prop :=
  w'.slog = w.slog ∧ w'.socks = w.socks ∧ w'.trs = w.trs ∧
  (w'.reqs.getD w.reqs.size default).resp = some { status := 413, ct := "-" } ∧
  (∀ n, (w'.reqs.getD w.reqs.size default).consumed = some n → n ≤ w.o.maxPayload + 1)

theorem consumed_answer (w : World) (r j : Nat) (resp : Resp) :
    ((w.answer r resp).reqs.getD j default).consumed = (w.reqs.getD j default).consumed := by
  unfold World.answer; split
  · rfl
  · rw [req_setReq]; split <;> rfl

/-- an oversized body on a registered polling session, what `postReq` comes to: the new request is answered 413 at
    once if the length was declared, after limit + 1 bytes have been read if it was not -/
theorem postReq_oversized (w : World) (sid : Nat) (binary declared : Bool) (body : Bytes) (vj : Bool)
    (hreg : w.registry.contains sid = true) (hpoll : (w.tr (w.sock sid).tr).isPolling = true)
    (hbin : ¬ (binary = true ∧ (w.tr (w.sock sid).tr).proto = 4)) (hbig : body.length > w.o.maxPayload) :
    postReq w sid binary declared body vj =
      (if declared = true then ({ w with reqs := w.reqs.push { isPost := true, consumed := some 0 } } : World)
        else ({ w with reqs := w.reqs.push { isPost := true, consumed := some 0 } } : World).setReq w.reqs.size
          fun q => { q with consumed := some (w.o.maxPayload + 1) }).answer w.reqs.size { status := 413, ct := "-" } := by
  have hmin : min body.length (w.o.maxPayload + 1) = w.o.maxPayload + 1 := Nat.min_eq_right hbig
  unfold postReq lookup
  -- the guards read the world with the new request pushed: the same registry, transports, sessions and options
  generalize hw0 : ({ w with reqs := w.reqs.push { isPost := true, consumed := some 0 } } : World) = w0
  have hreg' : w0.registry.contains sid = true := hw0 ▸ hreg
  have hp' : (w0.tr (w0.sock sid).tr).isPolling = true := hw0 ▸ hpoll
  have hb' : ¬ (binary = true ∧ (w0.tr (w0.sock sid).tr).proto = 4) := hw0 ▸ hbin
  have ho : w0.o = w.o := hw0 ▸ rfl
  simp only [hreg', if_true, hp', not_true_eq_false, if_false, hb', hmin, ho]
  cases declared
  · simp only [Bool.false_eq_true, false_and, if_false]
    rw [o_setReq', ho]; exact if_pos (Nat.lt_succ_self _)
  · simp only [hbig, and_self, if_true]

/-- an oversized body on a registered polling session: 413, nothing delivered, nothing else touched -/
theorem c10_oversized_body_refused (w : World) (sid : Nat) (binary declared : Bool) (body : Bytes) (vj : Bool)
    (hreg : w.registry.contains sid = true) (hpoll : (w.tr (w.sock sid).tr).isPolling = true)
    (hbin : ¬ (binary = true ∧ (w.tr (w.sock sid).tr).proto = 4))
    (hbig : body.length > w.o.maxPayload) : BodyRefused w (postReq w sid binary declared body vj) := by
  rw [postReq_oversized w sid binary declared body vj hreg hpoll hbin hbig]
  generalize hw0 : ({ w with reqs := w.reqs.push { isPost := true, consumed := some 0 } } : World) = w0
  have hl : w0.slog = w.slog ∧ w0.socks = w.socks ∧ w0.trs = w.trs := hw0 ▸ ⟨rfl, rfl, rfl⟩
  have hr : w.reqs.size < w0.reqs.size := by rw [← hw0]; show _ < (w.reqs.push _).size; simp
  have hq : w0.reqs.getD w.reqs.size default = { isPost := true, consumed := some 0 } := hw0 ▸ getD_push_eq w.reqs _ default
  cases declared
  · rw [if_neg Bool.false_ne_true]
    refine ⟨(slog_answer _ _ _).trans hl.1, (socks_answer _ _ _).trans hl.2.1, (trs_answer _ _ _).trans hl.2.2,
      c11_answer_records _ _ _ (by unfold World.setReq; simpa using hr) ?_, fun n hn => ?_⟩
    · rw [req_setReq, if_pos ⟨rfl, hr⟩, hq]
    · rw [consumed_answer, req_setReq, if_pos ⟨rfl, hr⟩] at hn; cases hn; exact Nat.le_refl _
  · rw [if_pos rfl]
    refine ⟨(slog_answer _ _ _).trans hl.1, (socks_answer _ _ _).trans hl.2.1, (trs_answer _ _ _).trans hl.2.2,
      c11_answer_records _ _ _ hr (by rw [hq]), fun n hn => ?_⟩
    rw [consumed_answer, hq] at hn; cases hn; exact Nat.zero_le _

end EIO.Ses
