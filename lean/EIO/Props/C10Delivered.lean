import EIO.Lemmas.Msg
import EIO.Props.C10Body
/-
C10, "no message larger than the limit is ever delivered":

  * revision 4 (every model state): whatever a polling body or a frame makes the server log, every message entry
    carries at most as many bytes as the body / frame had (`c10_v4_body_messages_within_body`,
    `c10_v4_frame_message_within_frame`); since a body or frame above the limit is refused before it is decoded
    (`c10_oversized_body_refused`, `c10_oversized_frame_not_delivered`), no revision-4 message above the limit is
    delivered (`c10_v4_post_messages_within_limit`).
  * revision 3: FALSE of the model, and of the code: the text payload decoder replaces every malformed byte by U+FFFD
    (three bytes), so a body within the limit can deliver a message three times its size. `c10_v3_inflation` is the
    kernel-checked counterexample (94-byte body, limit 100, 270-byte message); the same bytes are replayed on the real
    server by the hostile family (known finding C10/delivered/limit/post/v3-invalid-utf8).
-/
namespace EIO.Ses
open EIO EIO.Codec

/-- revision 4, polling: every message a body produces is at most as long as the body -/
theorem c10_v4_body_messages_within_body (w : World) (ti : Nat) (body : Bytes) (binary : Bool)
    (h4 : (w.tr ti).proto = 4) : MB body.length w (pollOnData w ti body binary).1 := by
  refine (only_pollOnData (routine_mayMsg _) ti body binary ?_ (Only.refl w)).log
  unfold pollDecode; rw [if_pos h4]
  exact fun p hp => takes_of_pktOK (decodePayloadV4_ok body p hp)

/-- revision 4, frame transports: the message a frame produces is at most as long as the frame -/
theorem c10_v4_frame_message_within_frame (w : World) (c : Nat) (m : Msg)
    (h4 : ∀ ti, trOfConn w c = some ti → (w.tr ti).proto ≠ 3) : MB m.data.length w (wsFrame w c m).1 := by
  refine (only_wsFrame (routine_mayMsg _) c m (fun ti hti _ => ?_) (Only.refl w)).log
  rw [if_neg (h4 ti hti)]
  exact takes_of_pktOK (decodePacketV4_ok m)

/-- revision 4, plain polling: whatever a data request makes the server log, no message entry exceeds the limit -/
theorem c10_v4_post_messages_within_limit (w : World) (sid : Nat) (binary declared : Bool) (body : Bytes)
    (h4 : (w.tr (w.sock sid).tr).proto = 4) :
    MB w.o.maxPayload w (postReq w sid binary declared body false) := by
  refine (only_postReq (routine_mayMsg _) sid binary declared body false (fun d _ hlen hd => ?_) (Only.refl w)).log
  cases hd
  unfold pollDecode; rw [if_pos h4]
  exact fun p hp => takes_of_pktOK fun hty m hm => Nat.le_trans (decodePayloadV4_ok body p hp hty m hm) hlen

/-- revision 3: the limit bounds the body, not the message. A 94-byte text payload of malformed bytes, limit 100:
    the application receives 270 bytes. -/
theorem c10_v3_inflation :
    let w := run { eio3 := true, maxPayload := 100 } [.hsPolling 3 false none, .settle]
    let body : Bytes := "91:4".toUTF8.toList ++ List.replicate 90 255
    body.length = 94 ∧
    ((postReq w 0 false true body).slog.filterMap fun e => match e.2 with | .message (some m) => some m.data.length | _ => none) = [270] := by
  decide +kernel

end EIO.Ses
