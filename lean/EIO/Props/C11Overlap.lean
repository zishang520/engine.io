import EIO.Props.C12Close
import EIO.Props.SessionLocal
/-
C11: a second poll while one is outstanding is answered 400 and closes the
session with a transport error — every model state.
-/
namespace EIO.Ses
open EIO EIO.Codec

/-- an overlapping poll: the transport reports an error and the new request is answered 400 -/
theorem c11_overlapping_poll_refused (w : World) (ti r : Nat) (h : (w.tr ti).req.isSome) :
    onPollRequest w ti r = (trOnError w ti).answer r { status := 400, ct := "-" } := c11_overlapping_poll w ti r h

/-- … and the session that owns the transport is closed when the request returns -/
theorem c11_overlapping_poll_closes_session (w : World) (ti r sid : Nat) (h : (w.tr ti).req.isSome)
    (hrole : (w.tr ti).role = .current sid) (hnc : (w.sock sid).rs ≠ .closed) (hsz : sid < w.socks.size) :
    ((onPollRequest w ti r).sock sid).rs = .closed := by
  rw [c11_overlapping_poll_refused w ti r h, sock_answer]
  unfold trOnError closeFuel
  rw [trOnErrorF]
  simp only [hrole]
  exact sockOnClose_closed _ w sid _ hnc hsz

/-- the 400 is the response of the new request, whatever happened to the session -/
theorem c11_overlapping_poll_answer (w : World) (ti r : Nat) (h : (w.tr ti).req.isSome)
    (hr : r < (trOnError w ti).reqs.size) (hfresh : ((trOnError w ti).reqs.getD r default).resp = none) :
    ((onPollRequest w ti r).reqs.getD r default).resp = some { status := 400, ct := "-" } := by
  rw [c11_overlapping_poll_refused w ti r h]
  exact c11_answer_records _ r _ hr hfresh

end EIO.Ses
