import EIO.Lemmas.Reach
/-
C11 / C12, for every history: a polling transport that has closed never sits on an idle pending poll.

In every reachable world, if a polling transport is closed and a poll is still registered on it, the transport is
not writable: a writer was started for that poll when the transport closed (`c12_close_releases_pending_poll`) or a
batch was already on its way to it; the writer task answers the poll when it runs (`c01_poll_answer_is_payload`).
Also for every history: only polling transports hold polls, a transport waiting for its batch to drain before it
closes is a frame transport, and every queued writer is of its transport's kind.
-/
namespace EIO.Ses
open EIO EIO.Codec

/-- C11/C12: a closed polling transport holds no idle pending poll -/
theorem c11_closed_transport_holds_no_idle_poll (o : Opts) (ops : List Op) (ti : Nat)
    (hp : ((run o ops).tr ti).isPolling = true) (hc : ((run o ops).tr ti).rs = .closed)
    (hq : ((run o ops).tr ti).req.isSome) : ((run o ops).tr ti).writable = false :=
  ((reach_px o ops).tr ti).p1 hp hc hq

/-- C11: only a polling transport ever holds a poll -/
theorem c11_only_polling_transports_hold_polls (o : Opts) (ops : List Op) (ti : Nat)
    (hq : ((run o ops).tr ti).req.isSome) : ((run o ops).tr ti).isPolling = true :=
  ((reach_px o ops).tr ti).p3 hq

/-- every queued writer task is of its transport's kind (a polling writer never runs on a frame transport) -/
theorem c01_writer_tasks_match_their_transport (o : Opts) (ops : List Op) (t : Task) (h : t ∈ (run o ops).tasks) :
    taskKindOK (run o ops) t :=
  (reach_px o ops).tk t h

/-- C11: in every reachable world, a poll registered on a polling transport that is not writable has a writer task
    queued for it, or its request is already finished (the client gave it up) -/
theorem c11_pending_poll_has_a_writer (o : Opts) (ops : List Op) (ti r : Nat)
    (hp : ((run o ops).tr ti).isPolling = true) (hq : ((run o ops).tr ti).req = some r)
    (hw : ((run o ops).tr ti).writable = false) :
    (∃ b, Task.pollSend ti b ∈ (run o ops).tasks) ∨ reqDone (run o ops) r :=
  (reach_pd o ops).p4 ti r (by simp) hp hq hw

/-- C11/C12 ("never none", "a pending poll is answered at the latest when the session closes"): in every reachable
    world, a poll still registered on a closed polling transport has a writer task queued for it — which answers it
    when it runs — or was given up by the client -/
theorem c11_poll_on_closed_transport_is_being_answered (o : Opts) (ops : List Op) (ti r : Nat)
    (hp : ((run o ops).tr ti).isPolling = true) (hc : ((run o ops).tr ti).rs = .closed)
    (hq : ((run o ops).tr ti).req = some r) :
    (∃ b, Task.pollSend ti b ∈ (run o ops).tasks) ∨ reqDone (run o ops) r :=
  c11_pending_poll_has_a_writer o ops ti r hp hq
    (c11_closed_transport_holds_no_idle_poll o ops ti hp hc (by rw [hq]; rfl))

/-- … hence, once the writer tasks have run (no task queued), a closed polling transport holds no poll other than
    one the client itself gave up -/
theorem c11_no_forgotten_poll_at_quiescence (o : Opts) (ops : List Op) (ti r : Nat)
    (hidle : (run o ops).tasks = [])
    (hp : ((run o ops).tr ti).isPolling = true) (hc : ((run o ops).tr ti).rs = .closed)
    (hq : ((run o ops).tr ti).req = some r) : reqDone (run o ops) r := by
  rcases c11_poll_on_closed_transport_is_being_answered o ops ti r hp hc hq with ⟨b, hb⟩ | h
  · rw [hidle] at hb; cases hb
  · exact h

/-- non-vacuity: a polling session with a poll pending is closed by the application; before the writer task runs
    the transport is closed, holds the poll and is not writable, a writer is queued; after it ran the poll is gone -/
example :
    let w := run {} [.hsPolling 4 false none, .settle, .poll 0 [], .settle]
    let w1 := step w (.close 0 true)
    (w1.tr 0).isPolling = true ∧ (w1.tr 0).rs = .closed ∧ (w1.tr 0).req.isSome = true ∧ (w1.tr 0).writable = false ∧
    w1.tasks.length = 1 ∧ ((step w1 .settle).tr 0).req = none := by decide +kernel

end EIO.Ses
