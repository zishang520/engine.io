import EIO.Lemmas.SesOps
import EIO.Props.Session
/-
C12: `Close(true)` (what `Server.Close` calls on every registered session)
closes a live session at once and takes it out of the client table.

Proved here under one explicit hypothesis about the state: the session's
current transport is not already closed (`LinkOK`). `Props/C12Shutdown.lean`
proves that hypothesis for every history (from the role/transport linkage of
`Lemmas/Link.lean`) and states the property without it; the driver
evaluates `LinkOK` in every world of every scenario of the correspondence and
prints a token when it fails.
-/
namespace EIO.Ses
open EIO EIO.Codec

/-- the session's current transport exists and is not closed (asked of sessions that are not closed) -/
def LinkOK (w : World) (sid : Nat) : Prop :=
  (w.sock sid).tr < w.trs.size ∧ (w.tr (w.sock sid).tr).rs ≠ .closed

instance (w : World) (sid : Nat) : Decidable (LinkOK w sid) := by unfold LinkOK; exact inferInstance

theorem Ext.closed {w w' : World} (e : Ext w w') (sid : Nat) (h : (w.sock sid).rs = .closed) : (w'.sock sid).rs = .closed := by
  have := e.rank sid
  rw [h] at this
  cases hr : (w'.sock sid).rs <;> simp [hr, RS.rank] at this ⊢

theorem closed_ite {sid : Nat} {c : Prop} [Decidable c] {a b : World} (ha : c → (a.sock sid).rs = .closed)
    (hb : ¬ c → (b.sock sid).rs = .closed) : ((if c then a else b).sock sid).rs = .closed :=
  ite_ind (P := fun w : World => (w.sock sid).rs = .closed) ha hb

/-- the callback handed to `transport.Close` by `closeTransport` closes the session, and whatever the close path
    does after it (`w'`) leaves it closed -/
theorem runCloseFn_closes (f : Nat) (w w' : World) (ti sid : Nat) (i : Inv w)
    (hfn : (w.tr ti).closeFn = some sid) (hsz : sid < w.socks.size) (p : Pres (runCloseFnF (f + 2) w ti) w') :
    (w'.sock sid).rs = .closed := by
  refine (p (pr_runCloseFnF _ ti (Pres.refl w) i).1).2.closed sid ?_
  rw [runCloseFnF, hfn]
  by_cases hc : (w.sock sid).rs = .closed
  · exact (pr_sockOnClose _ sid _ (pr_setTr ti _ (Pres.refl w)) i).2.closed sid hc
  · exact sockOnClose_closed f _ sid _ hc hsz

theorem trClose_discarded_closes (w : World) (ti sid : Nat) (i : Inv w) (hsz : sid < w.socks.size)
    (hopen : (w.tr ti).rs = .open_) (hdisc : (w.tr ti).discarded = true) :
    ((trClose w ti (some sid)).sock sid).rs = .closed := by
  -- an index beyond the table reads the default transport, which is not discarded
  have hin : ti < w.trs.size := Nat.lt_of_not_le fun h => by rw [tr_oob w ti h] at hdisc; cases hdisc
  unfold trClose
  rw [trCloseF, if_neg (by rw [hopen]; exact fun h => h.elim nofun nofun), hdisc]
  generalize hw2 : World.setTr w ti _ = w2
  have i2 : Inv w2 := hw2 ▸ (pr_setTr _ _ (Pres.refl w) i).1
  have hfn2 : (w2.tr ti).closeFn = some sid := by rw [← hw2, tr_setTr, if_pos ⟨rfl, hin⟩]
  have z2 : sid < w2.socks.size := hw2 ▸ hsz
  refine closed_ite (fun _ => ?_) fun _ => ?_
  · generalize hwa : abortData w2 _ = wa
    have ia : Inv wa := hwa ▸ (pr_abortData _ (Pres.refl w2) i2).1
    have hfna : (wa.tr ti).closeFn = some sid := by
      rw [← hwa]; unfold abortData; split
      · rw [tr_answer]; exact hfn2
      · exact hfn2
    have za : sid < wa.socks.size := by rw [← hwa, (det_abortData _ (Detached.refl 0 w2)).socks]; exact z2
    refine closed_ite (fun _ => ?_) fun _ => closed_ite (fun _ => ?_) fun h => absurd rfl h
    · exact runCloseFn_closes 9 _ _ ti sid (pr_trSend _ _ (Pres.refl wa) ia).1 ((tr_trSend_closeFn ..).trans hfna) za
        (pr_pollOnCloseF _ _ (Pres.refl _))
    · exact runCloseFn_closes 9 _ _ ti sid ia hfna za (pr_pollOnCloseF _ _ (Pres.refl _))
  · refine closed_ite (fun _ => ?_) fun h => absurd (Or.inr rfl) h
    rw [wsCloseNowF]
    refine runCloseFn_closes 8 _ _ ti sid (pr_setTr _ _ (Pres.refl w2) i2).1 ?_ z2
      (pr_trOnCloseBaseF _ _ (pr_setConn _ _ (Pres.refl _)))
    rw [tr_setTr]; split <;> exact hfn2

theorem Inv.regOpenOrClosing {w : World} (i : Inv w) (sid : Nat) (hreg : sid ∈ w.registry) :
    (w.sock sid).rs = .open_ ∨ (w.sock sid).rs = .closing := by
  cases h : (w.sock sid).rs with
  | opening => exact absurd h (i.regOpen sid hreg)
  | open_ => exact Or.inl rfl
  | closing => exact Or.inr rfl
  | closed => exact absurd h (i.regLive sid hreg).1

/-- `Close(true)` on a live session whose transport is not closed: the session is closed when the call returns -/
theorem appClose_discard_closes (w : World) (sid : Nat) (i : Inv w) (hsz : sid < w.socks.size)
    (hlive : (w.sock sid).rs = .open_ ∨ (w.sock sid).rs = .closing) (hlink : LinkOK w sid) :
    ((appClose w sid true).sock sid).rs = .closed := by
  have hnc : (w.sock sid).rs ≠ .closed := fun h => by rw [h] at hlive; exact hlive.elim nofun nofun
  unfold appClose
  rw [if_pos ⟨rfl, hlive⟩]
  unfold closeTransport
  rw [closeTransportF, if_pos rfl]
  generalize hw1 : World.setTr w _ _ = w1
  have i1 : Inv w1 := hw1 ▸ (pr_setTr _ _ (Pres.refl w) i).1
  have z1 : sid < w1.socks.size := hw1 ▸ hsz
  have ht1 : (w1.tr (w.sock sid).tr).rs = (w.tr (w.sock sid).tr).rs ∧ (w1.tr (w.sock sid).tr).discarded = true := by
    rw [← hw1, tr_setTr, if_pos ⟨rfl, hlink.1⟩]; exact ⟨rfl, rfl⟩
  have hs1 : w1.sock sid = w.sock sid := hw1 ▸ rfl
  refine closed_ite (fun _ => ?_) fun hcl => ?_
  · -- an orderly close is already buffered on the transport
    exact sockOnClose_closed _ w1 sid _ (hs1 ▸ hnc) z1
  · refine trClose_discarded_closes w1 _ sid i1 z1 ?_ ht1.2
    cases h : (w1.tr (w.sock sid).tr).rs with
    | open_ => rfl
    | closing => exact absurd ⟨rfl, h⟩ hcl
    | closed => exact absurd (ht1.1 ▸ h) hlink.2

/-- FULL STATEMENT (C12, shutdown half): after `Server.Close` every session is closed and the client table
    is empty. What is proved below is the per-session core under `LinkOK`. -/
def C12_shutdown_statement : Prop :=
  ∀ (o : Opts) (ops : List Op), (run o (ops ++ [.shutdown])).registry = []

/-- in every reachable world, `Close(true)` on a registered session whose transport link is intact closes it
    at once and takes it out of the client table -/
theorem c12_discard_closes_partial (o : Opts) (ops : List Op) (sid : Nat)
    (hlive : (run o ops).fault = none)
    (hreg : sid ∈ (run o ops).registry) (hlink : LinkOK (run o ops) sid) :
    ((run o (ops ++ [.close sid true])).sock sid).rs = .closed ∧ sid ∉ (run o (ops ++ [.close sid true])).registry := by
  have i := reach_inv o ops
  have hclosed : ((run o (ops ++ [.close sid true])).sock sid).rs = .closed := by
    rw [run_append]
    show ((step (run o ops) (.close sid true)).sock sid).rs = _
    unfold step
    rw [hlive, if_neg nofun]
    exact appClose_discard_closes _ sid i (i.regLive sid hreg).2.1 (i.regOpenOrClosing sid hreg) hlink
  exact ⟨hclosed, fun hm => ((reach_inv o (ops ++ [Op.close sid true])).regLive sid hm).1 hclosed⟩

/-- non-vacuity: a registered websocket session and a registered polling session satisfy the hypotheses -/
example :
    let w := run {} [.hsWebsocket 4 false, .hsPolling 4 false none, .settle]
    w.fault = none ∧ 0 ∈ w.registry ∧ 1 ∈ w.registry ∧ LinkOK w 0 ∧ LinkOK w 1 := by decide +kernel

end EIO.Ses
