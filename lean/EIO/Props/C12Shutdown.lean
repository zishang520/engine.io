import EIO.Lemmas.Reach
import EIO.Lemmas.RegSub
import EIO.Props.C12Close
/-
C12, for every history and without a hypothesis about the state:

* the linkage between sessions and transports holds in every reachable world (`reach_link`), so the
  hypothesis `LinkOK` of `c12_discard_closes_partial` is discharged (`c12_discard_closes`);
* `Server.Close` closes every registered session and leaves the client table empty (`c12_shutdown`),
  each session with exactly one close event (`c12_shutdown_one_close_event`, from `LogOK`).
-/
namespace EIO.Ses
open EIO EIO.Codec

theorem reach_linkOK (o : Opts) (ops : List Op) (sid : Nat) (hsz : sid < (run o ops).socks.size)
    (hnc : ((run o ops).sock sid).rs ≠ .closed) : LinkOK (run o ops) sid :=
  (reach_link o ops).linkOK sid hsz hnc

/-- C12 (Close(true)): in every reachable world, `Close(true)` on a registered session closes it at once and
    takes it out of the client table -/
theorem c12_discard_closes (o : Opts) (ops : List Op) (sid : Nat)
    (hlive : (run o ops).fault = none) (hreg : sid ∈ (run o ops).registry) :
    ((run o (ops ++ [.close sid true])).sock sid).rs = .closed ∧ sid ∉ (run o (ops ++ [.close sid true])).registry := by
  obtain ⟨hnc, hsz, _⟩ := (reach_inv o ops).regLive sid hreg
  exact c12_discard_closes_partial o ops sid hlive hreg (reach_linkOK o ops sid hsz hnc)

theorem appClose_announced_closes (w : World) (sid : Nat) (i : Inv w) (l : Link w) (ha : (w.sock sid).announced = true) :
    ((appClose w sid true).sock sid).rs = .closed := by
  rcases i.annReg sid ha with hreg | hc
  · obtain ⟨hnc, hsz, _⟩ := i.regLive sid hreg
    exact appClose_discard_closes w sid i hsz (i.regOpenOrClosing sid hreg) (l.linkOK sid hsz hnc)
  · exact (pr_appClose sid true (Pres.refl w) i).2.closed sid hc

/-- the loop of `Server.Close` -/
theorem shutdownFold_closes (reg : List Nat) (w : World) (i : Inv w) (l : Link w)
    (ha : ∀ sid ∈ reg, (w.sock sid).announced = true) :
    Inv (reg.foldl (fun w sid => appClose w sid true) w) ∧ Ext w (reg.foldl (fun w sid => appClose w sid true) w) ∧
    RegSub w (reg.foldl (fun w sid => appClose w sid true) w) ∧
    ∀ sid ∈ reg, ((reg.foldl (fun w sid => appClose w sid true) w).sock sid).rs = .closed := by
  induction reg generalizing w with
  | nil => exact ⟨i, Ext.refl w, RegSub.refl w, fun _ h => by cases h⟩
  | cons sid rest ih =>
    simp only [List.foldl_cons]
    obtain ⟨i1, e1⟩ := (pr_appClose sid true (Pres.refl w)) i
    have l1 := lk_appClose sid true l
    have hc := appClose_announced_closes w sid i l (ha sid (List.mem_cons_self))
    obtain ⟨i2, e2, r2, c2⟩ := ih (appClose w sid true) i1 l1
      (fun s hs => e1.ann s (ha s (List.mem_cons_of_mem _ hs)))
    refine ⟨i2, e1.trans e2, (rs_appClose w sid true).trans r2, fun s hs => ?_⟩
    rcases List.mem_cons.mp hs with h | h
    · subst h; exact e2.closed s hc
    · exact c2 s h

/-- C12 (shutdown): `Server.Close` leaves the client table empty and every session that was in it closed;
    this is `C12_shutdown_statement` for every world in which the model has not given up (`fault = none`) -/
theorem c12_shutdown (o : Opts) (ops : List Op) (hlive : (run o ops).fault = none) :
    (run o (ops ++ [.shutdown])).registry = [] ∧
    ∀ sid ∈ (run o ops).registry, ((run o (ops ++ [.shutdown])).sock sid).rs = .closed := by
  obtain ⟨i, l⟩ := reach_inv_link o ops
  have hstep : run o (ops ++ [.shutdown]) = shutdown (run o ops) := by
    rw [run_append]
    show step (run o ops) .shutdown = _
    unfold step
    rw [hlive, if_neg nofun]
  rw [hstep]
  unfold shutdown
  obtain ⟨i2, _, r2, c2⟩ := shutdownFold_closes (run o ops).registry (run o ops) i l (fun s hs => (i.regLive s hs).2.2)
  refine ⟨?_, c2⟩
  apply List.eq_nil_iff_forall_not_mem.mpr
  intro s hs
  exact (i2.regLive s hs).1 (c2 s (r2 s hs))

theorem closed_one_close_event (o : Opts) (ops : List Op) (sid : Nat) (hc : ((run o ops).sock sid).rs = .closed) :
    ((run o ops).slog.filter fun e => e.1 == sid && e.2.isClose).length = 1 := by
  obtain ⟨e, he, h1, h2⟩ := (reach_inv o ops).closedLog sid hc
  have hm : e ∈ (run o ops).slog.filter fun e => e.1 == sid && e.2.isClose :=
    List.mem_filter.mpr ⟨he, by rw [h1, h2]; simp⟩
  exact Nat.le_antisymm (c03_at_most_one_close o ops sid) (List.length_pos_of_mem hm)

/-- C12 (shutdown, events): after `Server.Close` the log holds exactly one close event of every session that was registered -/
theorem c12_shutdown_one_close_event (o : Opts) (ops : List Op) (hlive : (run o ops).fault = none)
    (sid : Nat) (hreg : sid ∈ (run o ops).registry) :
    ((run o (ops ++ [.shutdown])).slog.filter fun e => e.1 == sid && e.2.isClose).length = 1 :=
  closed_one_close_event o _ sid ((c12_shutdown o ops hlive).2 sid hreg)

/-- non-vacuity: three sessions (websocket, polling, one mid-upgrade), then `Server.Close` -/
example :
    let ops := [.hsWebsocket 4 false, .hsPolling 4 false none, .hsPolling 4 true none, .wsCandidate 1 4 false, .settle]
    (run {} ops).fault = none ∧ (run {} ops).registry = [0, 1, 2] ∧ (run {} (ops ++ [.shutdown])).registry = [] := by
  decide +kernel

end EIO.Ses
