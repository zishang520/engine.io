import EIO.Props.C14
/-
C13 — WebTransport framing round-trips every message on every write path.

In the model the wire is the byte string `WConn.out`; the reader sees
`input ++ tail`, i.e. only the concatenation of whatever fragments the stream
delivers (bufio is trusted for that and the correspondence check fragments the
real stream adversarially), so independence from fragmentation is built into
the statement: it holds for the concatenation, hence for every fragmentation.
-/
namespace EIO.WT
open EIO

/-- the frames of a sender that always picks the minimal length form -/
theorem encodeAll_minimal {α : Type} (msg : α → Msg) (l : List α) :
    Spec.encodeAll (l.map fun a => (Spec.minimal (msg a).data.length, msg a)) =
      (l.map fun a => Spec.encode (msg a)).flatten := by
  rw [Spec.encodeAll, List.map_map]
  rfl

/-- **C13, full strength.** For every sequence of messages (any kinds, any
    payload lengths below 2^63 — Go slices cannot be longer), written through any
    mix of the four write APIs with any chunking of the writer input, on a
    server or client connection created with any write-buffer size (0 =
    default) and with or without a buffer pool, the peer reads exactly those
    messages, each once, in order, with the same kind and bytes. -/
theorem c13_roundtrip (defBuf : Nat) (srv : Bool) (wbuf : Nat) (pooled : Bool) (ops : List WriteOp)
    (hlen : ∀ o ∈ ops, o.msg.data.length < 2 ^ 63) :
    (readStream (ops.foldl (applyOp defBuf) (WConn.new srv wbuf pooled defBuf)).out).1 =
      ops.map (·.msg) := by
  rw [c14_encoder_conforms defBuf ops _ (c14_new_conn_wf srv wbuf pooled defBuf)]
  show (readStream ([] ++ _)).1 = _
  rw [List.nil_append, ← encodeAll_minimal, (c14_decoder_accepts _ ?_).1, List.map_map]
  · rfl
  · intro fm hfm
    obtain ⟨o, ho, rfl⟩ := List.mem_map.mp hfm
    exact Spec.minimal_fits _ (hlen o ho)

/-- on an already used connection the frames follow what was written before
    (`c14_encoder_conforms` again; nothing is read back here) -/
theorem c13_roundtrip_appended (defBuf : Nat) (c : WConn) (h : c.WF) (ops : List WriteOp) :
    (ops.foldl (applyOp defBuf) c).out = c.out ++ (ops.map fun o => Spec.encode o.msg).flatten :=
  c14_encoder_conforms defBuf ops c h

/-- non-vacuity: a 300-byte text message through the streaming writer of a
    client connection with a 16-byte buffer (it must grow), then an empty
    binary message through the one-shot path, read back as written -/
example :
    (readStream ([WriteOp.stream .text [List.replicate 200 65, List.replicate 100 66],
                  .message ⟨.binary, []⟩].foldl (applyOp 4096)
        (WConn.new false 16 false 4096)).out).1 =
      [⟨.text, List.replicate 200 65 ++ List.replicate 100 66⟩, ⟨.binary, []⟩] := by
  decide +kernel

end EIO.WT
