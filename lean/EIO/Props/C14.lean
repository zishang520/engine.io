import EIO.Lemmas.WTWriter
import EIO.Lemmas.WTReader
/-
C14 — WebTransport wire format is exactly Engine.IO framing, one frame per
message. Encoder half: every write path of the model of conn.go/prepared.go
emits, for one message, exactly `Spec.encode` of it — for every payload, every
buffer size (including 0 = default), pool on/off, every earlier content of the
(reused, pooled, grown) buffer, every chunking of the writer input, and every
sequence of messages. Decoder half: see `c14_decoder_accepts` below.
-/
namespace EIO.WT
open EIO

/-- the write APIs of `webtransport.Conn` -/
inductive WriteOp where
  | message (m : Msg)                              -- WriteMessage
  | stream (k : Kind) (chunks : List Bytes)        -- NextWriter; Write*; Close
  | readFrom (k : Kind) (chunks : List Bytes)      -- NextWriter; ReadFrom; Close
  | prepared (m : Msg)                             -- WritePreparedMessage

def WriteOp.msg : WriteOp → Msg
  | .message m => m
  | .stream k chunks => ⟨k, chunks.flatten⟩
  | .readFrom k chunks => ⟨k, chunks.flatten⟩
  | .prepared m => m

def applyOp (defBuf : Nat) (c : WConn) : WriteOp → WConn
  | .message m => writeMessage c m
  | .stream k chunks => writeStream c k chunks
  | .readFrom k chunks => writeReadFrom c k chunks
  | .prepared m => writePrepared c defBuf m

theorem c14_encoder_stream (c : WConn) (h : c.WF) (k : Kind) (chunks : List Bytes) :
    (writeStream c k chunks).out = c.out ++ Spec.encode ⟨k, chunks.flatten⟩ ∧
    (writeStream c k chunks).WF ∧ (writeStream c k chunks).isServer = c.isServer := by
  have := ((beginMessage_open c k h).writeAll chunks).flushFinal []
  rwa [List.append_nil, List.nil_append] at this

theorem c14_encoder_readFrom (c : WConn) (h : c.WF) (k : Kind) (chunks : List Bytes) :
    (writeReadFrom c k chunks).out = c.out ++ Spec.encode ⟨k, chunks.flatten⟩ ∧
    (writeReadFrom c k chunks).WF ∧ (writeReadFrom c k chunks).isServer = c.isServer := by
  have := ((beginMessage_open c k h).readFrom chunks).flushFinal []
  rwa [List.append_nil, List.nil_append] at this

theorem c14_encoder_message (c : WConn) (h : c.WF) (m : Msg) :
    (writeMessage c m).out = c.out ++ Spec.encode m ∧
    (writeMessage c m).WF ∧ (writeMessage c m).isServer = c.isServer := by
  unfold writeMessage
  split
  · -- the server fast path: copy what fits, pass the rest as `extra`
    have ho := beginMessage_open c m.kind h
    generalize beginMessage c m.kind = w at ho ⊢
    have hp : w.p = 0 := ho.len.symm
    have := (ho.copy m.data).flushFinal (m.data.drop (copyInto w.buf.body w.p m.data).2)
    rwa [hp, Nat.zero_add, List.nil_append, List.take_append_drop] at this
  · have := c14_encoder_stream c h m.kind [m.data]
    rwa [List.flatten_cons, List.flatten_nil, List.append_nil] at this

theorem c14_encoder_prepared (c : WConn) (h : c.WF) (defBuf : Nat) (m : Msg) :
    (writePrepared c defBuf m).out = c.out ++ Spec.encode m ∧
    (writePrepared c defBuf m).WF ∧ (writePrepared c defBuf m).isServer = c.isServer := by
  have := (c14_encoder_message (WConn.scratch c.isServer defBuf)
    (.of_buf (WBuf.fresh_hdr defBuf) rfl rfl) m).1
  exact ⟨congrArg (c.out ++ ·) (this.trans (List.nil_append _)), ⟨h.buf, h.pool⟩, rfl⟩

/-- **C14 (encoder), full strength.** Any sequence of writes through any mix of
    the four write APIs, on a connection created with any buffer size and with
    or without a pool, puts on the wire exactly the concatenation of one spec
    frame per message, in order. -/
theorem c14_encoder_conforms (defBuf : Nat) (ops : List WriteOp) (c : WConn) (h : c.WF) :
    (ops.foldl (applyOp defBuf) c).out = c.out ++ (ops.map fun o => Spec.encode o.msg).flatten := by
  induction ops generalizing c with
  | nil => exact (List.append_nil _).symm
  | cons o rest ih =>
    have step : (applyOp defBuf c o).out = c.out ++ Spec.encode o.msg ∧ (applyOp defBuf c o).WF ∧
        (applyOp defBuf c o).isServer = c.isServer := by
      cases o with
      | message m => exact c14_encoder_message c h m
      | stream k ch => exact c14_encoder_stream c h k ch
      | readFrom k ch => exact c14_encoder_readFrom c h k ch
      | prepared m => exact c14_encoder_prepared c h defBuf m
    rw [List.foldl_cons, List.map_cons, List.flatten_cons, ih _ step.2.1, step.1, List.append_assoc]

/-- every connection `NewConn` can build satisfies the hypothesis -/
theorem c14_new_conn_wf (srv : Bool) (n : Nat) (pooled : Bool) (d : Nat) :
    (WConn.new srv n pooled d).WF := by
  cases pooled
  · exact .of_buf (WBuf.fresh_hdr _) rfl rfl
  · exact .of_pool (fun _ h => absurd h List.not_mem_nil) rfl rfl

/-- non-vacuity: a pooled one-byte-buffer server connection writing a text
    message of 3 bytes through the streaming writer in three chunks, then a
    prepared binary message -/
example : (([WriteOp.stream .text [[1], [2], [3]], .prepared ⟨.binary, [9]⟩]).foldl (applyOp 4096)
    (WConn.new true 1 true 4096)).out = [3, 1, 2, 3, 129, 9] := by decide +kernel

/-- a whole stream of well-formed frames, however the stream ends and whatever
    the read limit, as long as no payload exceeds a positive limit -/
theorem readStream_encodeAll (fms : List (Spec.LenForm × Msg)) (tail : StreamEnd) (limit : Nat)
    (hfit : ∀ fm ∈ fms, fm.1.fits fm.2.data.length ∧ (limit = 0 ∨ fm.2.data.length ≤ limit)) :
    (readStream (Spec.encodeAll fms) tail limit).1 = fms.map (·.2) ∧
    (readStream (Spec.encodeAll fms) tail limit).2.1 = some tail.peekErr :=
  RConn.readMessages_ok fms _ { input := Spec.encodeAll fms, tail, limit } []
    (Nat.lt_succ_of_le (encodeAll_length_ge fms)) rfl rfl (by decide : 0 + 1 < errGuard) rfl hfit

/-- **C14 (decoder), full strength.** Every stream of well-formed frames — each
    in whatever length form its sender chose, minimal or not, zero-length
    payloads included — is read back as exactly the encoded messages, in order;
    the clean end of the stream is then reported as an unexpected end (this is
    how the transport learns that the peer is gone). No read limit. -/
theorem c14_decoder_accepts (fms : List (Spec.LenForm × Msg))
    (hfit : ∀ fm ∈ fms, fm.1.fits fm.2.data.length) :
    (readStream (Spec.encodeAll fms)).1 = fms.map (·.2) ∧
    (readStream (Spec.encodeAll fms)).2.1 = some .unexpectedEOF :=
  readStream_encodeAll fms .eof 0 fun fm h => ⟨hfit fm h, .inl rfl⟩

/-- the same under a positive read limit that no message exceeds -/
theorem c14_decoder_accepts_within_limit (fms : List (Spec.LenForm × Msg)) (limit : Nat)
    (hfit : ∀ fm ∈ fms, fm.1.fits fm.2.data.length ∧ fm.2.data.length ≤ limit) :
    (readStream (Spec.encodeAll fms) .eof limit).1 = fms.map (·.2) :=
  (readStream_encodeAll fms .eof limit fun fm h => ⟨(hfit fm h).1, .inr (hfit fm h).2⟩).1

/-- non-vacuity: a non-minimal 16-bit form carrying 1 byte, an empty text
    frame in the 64-bit form, and a minimal binary frame -/
example : (readStream (Spec.encodeAll
    [(.ext16, ⟨.text, [7]⟩), (.ext64, ⟨.text, []⟩), (.short, ⟨.binary, [1, 2]⟩)])).1 =
    [⟨.text, [7]⟩, ⟨.text, []⟩, ⟨.binary, [1, 2]⟩] := by decide +kernel

end EIO.WT
