import EIO.Lemmas.WTReader
/-
C15 — the WebTransport reader is total: no panic (apart from the documented
thousand-repeat guard), never more payload than declared or supplied, read
limit enforced (limit error + session close), truncation is an error, errors
are sticky. All statements quantify over every byte stream, every limit, every
way the stream ends (clean EOF / stream error) and every consumption pattern.

In the model a Go panic is the explicit constructor `Next.panic`; `readMsg`,
`readAll` and `advanceFrame` have no panic outcome at all because the Go code
they mirror has no type assertion or nil dereference, indexes only what `Peek`
returned (`p[0]` after `read(1)`) and slices the caller's buffer only under the
guard `len(b) > readRemaining` (census in `Generated/Facts.lean`:
`wt_reader_risky`, `wt_panics`).
-/
namespace EIO.WT
open EIO

/-- a frame is handed to the application only if its declared length is
    within a positive limit -/
theorem c15_advance_within_limit (c c' : RConn) (k : Kind) (hl : c.limit > 0) (h0 : c.rlen = 0)
    (h : c.advanceFrame = .frame k c') : c'.rem ≤ c.limit := by
  obtain ⟨-, -, hlim, hr⟩ := (RConn.advanceFrame_cfg c).1 k c' h
  rw [h0, Nat.zero_add] at hr
  exact hr ▸ hlim hl

/-- what each outcome of `NextReader` means: a reader is handed out only on a
    connection without recorded failure and only for a frame within a positive
    limit; every other outcome leaves the failure recorded and counted, and
    the panic is the one behind the guard -/
theorem RConn.nextReader_spec (c : RConn) :
    match c.nextReader with
    | .reader _ c' => c.err = none ∧ c'.cur = true ∧ (c.limit > 0 → c'.rem ≤ c.limit)
    | .error e c' => c'.err = some e ∧ c'.errCount = c.errCount + 1 ∧ c'.errCount < errGuard
    | .panic c' => c'.err ≠ none ∧ c'.errCount = c.errCount + 1 ∧ c'.errCount ≥ errGuard := by
  cases herr : c.err with
  | some e =>
    rw [c.nextReader_of_err herr]
    by_cases hg : c.errCount + 1 ≥ errGuard
    · rw [if_pos hg]; exact ⟨herr ▸ nofun, rfl, hg⟩
    · rw [if_neg hg]; exact ⟨herr, rfl, Nat.lt_of_not_le hg⟩
  | none =>
    cases hadv : RConn.advanceFrame { c with cur := false, rlen := 0 } with
    | frame k c' =>
      rw [c.nextReader_of_frame herr hadv]
      exact ⟨rfl, rfl, fun hl =>
        c15_advance_within_limit { c with cur := false, rlen := 0 } c' k hl rfl hadv⟩
    | fail e c' =>
      rw [c.nextReader_of_fail herr hadv, ((RConn.advanceFrame_cfg _).2 e c' hadv).1.errCount]
      by_cases hg : c.errCount + 1 ≥ errGuard
      · rw [if_pos hg]; exact ⟨nofun, rfl, hg⟩
      · rw [if_neg hg]; exact ⟨rfl, rfl, Nat.lt_of_not_le hg⟩

/-! ### the documented guard is the only panic -/

theorem c15_no_panic_before_guard (c : RConn) (h : c.errCount + 1 < errGuard) :
    ∀ c', c.nextReader ≠ .panic c' := by
  intro c' hp
  have := hp ▸ c.nextReader_spec
  exact Nat.not_le_of_gt h (this.2.1 ▸ this.2.2)

theorem c15_panic_only_on_failed_connection (c c' : RConn) (h : c.nextReader = .panic c') :
    c'.err ≠ none ∧ c'.errCount ≥ errGuard :=
  ⟨(h ▸ c.nextReader_spec).1, (h ▸ c.nextReader_spec).2.2⟩

theorem c15_reader_means_no_error (c c' : RConn) (k : Kind) (h : c.nextReader = .reader k c') :
    c.err = none ∧ c'.cur = true :=
  ⟨(h ▸ c.nextReader_spec).1, (h ▸ c.nextReader_spec).2.1⟩

/-! ### errors are sticky -/

theorem c15_error_is_recorded (c c' : RConn) (e : RErr) (h : c.nextReader = .error e c') :
    c'.err = some e :=
  (h ▸ c.nextReader_spec).1

/-- once a read has failed, every later `NextReader` reports the same failure
    (until the documented guard trips) and the failure stays recorded -/
theorem c15_sticky_next (c : RConn) (e : RErr) (h : c.err = some e) (hg : c.errCount + 1 < errGuard) :
    ∃ c', c.nextReader = .error e c' ∧ c'.err = some e ∧ c'.errCount = c.errCount + 1 :=
  ⟨_, (c.nextReader_of_err h).trans (if_neg (Nat.not_le_of_gt hg)), h, rfl⟩

/-- `Read` on any reader object never clears a recorded failure and reports it -/
theorem c15_sticky_read (c : RConn) (e : RErr) (n : Nat) (mine : Bool) (h : c.err = some e) :
    (c.readMsg n mine).c.err = some e ∧ (c.readMsg n mine).data = [] ∧
    (c.readMsg n mine).err ≠ none := by
  by_cases h1 : mine = true ∧ c.cur = true
  · obtain ⟨rfl, hcur⟩ := h1
    rw [c.readMsg_failed n hcur h]
    exact ⟨h, rfl, Option.some_ne_none _⟩
  · rw [c.readMsg_stale n h1]
    exact ⟨h, rfl, Option.some_ne_none _⟩

/-! ### never more payload than declared or supplied -/

/-- one `Read`: at most `n` bytes, at most what the header still allows, and
    exactly the next bytes of the stream -/
theorem c15_read_bounded (c : RConn) (n : Nat) (mine : Bool) :
    (c.readMsg n mine).data.length ≤ n ∧ (c.readMsg n mine).data.length ≤ c.rem ∧
    (c.readMsg n mine).data = c.input.take (c.readMsg n mine).data.length :=
  ⟨(RConn.readMsg_bounded c n mine).1, (RConn.readMsg_bounded c n mine).2.1,
   (RConn.readMsg_bounded c n mine).2.2.1⟩

/-- a whole `ReadAll`: never more than the declared length -/
theorem c15_readAll_bounded (c : RConn) : c.readAll.1.length ≤ c.rem := by
  have := RConn.readAllLoop_bounded 512 (c.rem + 2) c []
  rwa [List.length_nil, Nat.zero_add] at this

/-! ### the read limit -/

/-- **no message longer than a positive read limit is ever delivered**, complete
    or partial, whatever the stream contains -/
theorem c15_limit (c : RConn) (hl : c.limit > 0) :
    (∀ m c', c.readMessage = .msg m c' → m.data.length ≤ c.limit) ∧
    (∀ k d e c', c.readMessage = .partialMsg k d e c' → d.length ≤ c.limit) := by
  have hspec := c.nextReader_spec
  unfold RConn.readMessage
  split
  · exact ⟨fun _ _ => nofun, fun _ _ _ _ => nofun⟩
  · exact ⟨fun _ _ => nofun, fun _ _ _ _ => nofun⟩
  next k c1 hn =>
    -- the reader was handed out for a frame within the limit, and `ReadAll` stays within the frame
    rw [hn] at hspec
    have hle := Nat.le_trans (c15_readAll_bounded c1) (hspec.2.2 hl)
    split
    next d c2 hra =>
      rw [hra] at hle
      exact ⟨fun _ _ h => (MsgRes.msg.inj h).1 ▸ hle, fun _ _ _ _ => nofun⟩
    next d e c2 hra =>
      rw [hra] at hle
      exact ⟨fun _ _ => nofun, fun _ _ _ _ h => (MsgRes.partialMsg.inj h).2.1 ▸ hle⟩

/-- an oversized frame (any length form) is refused with the limit error and
    the session is closed with the message-too-big code -/
theorem c15_limit_closes_session (c : RConn) (f : Spec.LenForm) (k : Kind) (n : Nat) (rest : Bytes)
    (hrem : c.rem = 0) (hlen : c.rlen = 0) (hin : c.input = Spec.headerWith f k n ++ rest)
    (hfit : f.fits n) (hl : c.limit > 0) (hover : n > c.limit) :
    ∃ c', c.advanceFrame = .fail (if c.closeFails then .closeFailed else .readLimit) c' ∧
      c'.closes = c.closes ++ [1009] :=
  ⟨_, (c.advanceFrame_header f k n rest hrem hin hfit).trans
    (RConn.checkLimit_over _ k (hlen ▸ Nat.zero_add n) hl hover), rfl⟩

/-! ### truncation is an error, never a message -/

/-- the stream ends inside a payload: the partial bytes come with an error
    (unexpected EOF for a clean end), never as a complete message -/
theorem c15_truncated_payload (c : RConn) (f : Spec.LenForm) (m : Msg) (j : Nat)
    (herr : c.err = none) (hrem : c.rem = 0) (hj : j < m.data.length)
    (hin : c.input = Spec.headerWith f m.kind m.data.length ++ m.data.take j)
    (hfit : f.fits m.data.length) (hlim : c.limit = 0 ∨ m.data.length ≤ c.limit) :
    ∃ c', c.readMessage = .partialMsg m.kind (m.data.take j)
      (if c.tail.rawErr = .eof then .unexpectedEOF else c.tail.rawErr) c' :=
  ⟨_, (c.readMessage_frame f m.kind m.data.length (m.data.take j) herr hrem hin hfit hlim).trans (by
    rw [if_pos (Nat.lt_of_le_of_lt (List.length_take_le _ _) hj), StreamEnd.peekErr_eq])⟩

/-- a 64-bit length with the most significant bit set is rejected -/
theorem c15_msb_length (c : RConn) (k : Kind) (v : Nat) (rest : Bytes)
    (hrem : c.rem = 0) (hv : 2 ^ 63 ≤ v) (hv2 : v < 2 ^ 64)
    (hin : c.input = UInt8.ofNat (Spec.kindBit k + 127) :: (be 8 v ++ rest)) :
    ∃ c', c.advanceFrame = .fail .readLimit c' := by
  rw [c.advanceFrame_boundary hrem, c.header_ext64 k (be 8 v) rest (be_length 8 v) hin, unbe_be_of_lt 8 v hv2,
    if_pos hv]
  exact ⟨_, rfl⟩

/-- non-vacuity / concrete instances: a stream cut inside a 16-bit header, a
    frame declaring 2^63 bytes, and a 3-byte frame under limit 2 -/
example : (readStream [126, 0]).2.1 = some .unexpectedEOF ∧ (readStream [126, 0]).1 = [] := by
  decide +kernel
example : (readStream (255 :: be 8 (2 ^ 63) ++ [1, 2, 3])).2.1 = some .readLimit := by
  decide +kernel
example : (readStream [3, 1, 2, 3] .eof 2).2.1 = some .readLimit ∧
    (readStream [3, 1, 2, 3] .eof 2).2.2.closes = [1009] ∧ (readStream [3, 1, 2, 3] .eof 2).1 = [] := by
  decide +kernel

end EIO.WT
