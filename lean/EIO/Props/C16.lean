import EIO.Model.Session
/-
C16 — poll responses: the payload decodes to the batch (Props/Codec.lean), the
coding is one the request named, and the JSONP wrapper is
`___eio[<digits>]("<escaped payload>");` where the escaped payload holds no `<`,
`>`, `&` and no raw control character, for every `j` parameter and every payload.
-/
namespace EIO.Codec
open EIO

/-- `j` can contribute nothing but decimal digits to the response -/
theorem c16_jsonp_digits (j : Bytes) : ∀ b ∈ jsonpDigits j, 48 ≤ b ∧ b ≤ 57 := by
  intro b hb
  unfold jsonpDigits at hb
  simpa using (List.mem_filter.mp hb).2

/-- a byte that cannot open a tag or an entity and is no raw control character (a quote or a backslash passes:
    that each one in the literal is escaped is not claimed) -/
def ScriptSafe (b : UInt8) : Prop := b.toNat ≥ 0x20 ∧ b ≠ 60 ∧ b ≠ 62 ∧ b ≠ 38

theorem safe_of_ge {b : UInt8} (h : 0x80 ≤ b.toNat) : ScriptSafe b := by
  refine ⟨by omega, ?_, ?_, ?_⟩ <;> (rintro rfl; simp at h)

theorem hexDigit_safe : ∀ n < 16, ScriptSafe (hexDigit n) := by unfold ScriptSafe hexDigit; decide

theorem u4esc_safe (n : Nat) : ∀ x ∈ u4esc n, ScriptSafe x := by
  have h (k : Nat) := hexDigit_safe (k % 16) (Nat.mod_lt _ (by decide))
  have h2 : ScriptSafe 92 ∧ ScriptSafe 117 := by unfold ScriptSafe; decide
  simp only [u4esc, List.forall_mem_cons, h, h2, true_and]
  exact List.forall_mem_nil _

theorem jsonEscAscii_safe (b : UInt8) : ∀ x ∈ jsonEscAscii b, ScriptSafe x := by
  unfold jsonEscAscii
  -- the two-character escapes of `"`, backslash, newline, return, tab, backspace, form feed
  iterate 7 (refine ite_ind (P := (∀ x ∈ ·, ScriptSafe x)) (fun _ => by unfold ScriptSafe; decide) fun _ => ?_)
  refine ite_ind (P := (∀ x ∈ ·, ScriptSafe x)) (fun _ => u4esc_safe _) fun h => ?_
  simp only [not_or, Nat.not_lt] at h
  exact List.forall_mem_singleton.mpr h

theorem lo3_ge (x : Nat) : 0x80 ≤ lo3 x := by unfold lo3; split <;> omega
theorem lo4_ge (x : Nat) : 0x80 ≤ lo4 x := by unfold lo4; split <;> omega
theorem cont_ge {b : UInt8} (h : cont b = true) : 0x80 ≤ b.toNat := by
  have := of_decide_eq_true h; omega

/- The continuation bytes that `decodeRune` accepts after the lead byte are not ASCII: of a sequence of width
   `w` these are the `w - 1` bytes that follow, and there are none when the width is 1. -/

theorem dr2_cont (x : Nat) (rest : Bytes) : ∀ b ∈ rest.take ((dr2 x rest).2 - 1), 0x80 ≤ b.toNat := by
  unfold dr2
  split
  · split
    · next h => exact List.forall_mem_singleton.mpr (cont_ge h)
    · exact List.forall_mem_nil _
  · exact List.forall_mem_nil _

theorem dr3_cont (x : Nat) (rest : Bytes) : ∀ b ∈ rest.take ((dr3 x rest).2 - 1), 0x80 ≤ b.toNat := by
  unfold dr3
  split
  · split
    · next h =>
      exact List.forall_mem_cons.mpr ⟨Nat.le_trans (lo3_ge x) h.1, List.forall_mem_singleton.mpr (cont_ge h.2.2)⟩
    · exact List.forall_mem_nil _
  · exact List.forall_mem_nil _

theorem dr4_cont (x : Nat) (rest : Bytes) : ∀ b ∈ rest.take ((dr4 x rest).2 - 1), 0x80 ≤ b.toNat := by
  unfold dr4
  split
  · split
    · next h =>
      exact List.forall_mem_cons.mpr ⟨Nat.le_trans (lo4_ge x) h.1, List.forall_mem_cons.mpr
        ⟨cont_ge h.2.2.1, List.forall_mem_singleton.mpr (cont_ge h.2.2.2)⟩⟩
    · exact List.forall_mem_nil _
  · exact List.forall_mem_nil _

/-- `decodeRune` on a non-empty string gives width 1 or what `dr2`, `dr3`, `dr4` give -/
theorem decodeRune_cases {P : Nat × Nat → Prop} (b0 : UInt8) (rest : Bytes) (h1 : ∀ r, P (r, 1))
    (h2 : ∀ x, P (dr2 x rest)) (h3 : ∀ x, P (dr3 x rest)) (h4 : ∀ x, P (dr4 x rest)) :
    P (decodeRune (b0 :: rest)) := by
  rw [decodeRune]
  iterate 2 (refine ite_ind (fun _ => h1 _) fun _ => ?_)
  exact ite_ind (fun _ => h2 _) fun _ => ite_ind (fun _ => h3 _) fun _ => ite_ind (fun _ => h4 _) fun _ => h1 _

theorem decodeRune_cont (b0 : UInt8) (rest : Bytes) :
    ∀ b ∈ rest.take ((decodeRune (b0 :: rest)).2 - 1), 0x80 ≤ b.toNat :=
  decodeRune_cases (P := fun r => ∀ b ∈ rest.take (r.2 - 1), 0x80 ≤ b.toNat) b0 rest (fun _ => List.forall_mem_nil _)
    (dr2_cont · rest) (dr3_cont · rest) (dr4_cont · rest)

/-- whatever `decodeRune` takes off a string that starts with a non-ASCII byte is non-ASCII -/
theorem decodeRune_taken {b0 : UInt8} (h : 0x80 ≤ b0.toNat) (rest : Bytes) :
    ∀ b ∈ (b0 :: rest).take (decodeRune (b0 :: rest)).2, 0x80 ≤ b.toNat := by
  have := decodeRune_cont b0 rest
  generalize (decodeRune (b0 :: rest)).2 = w at this ⊢
  cases w with
  | zero => exact List.forall_mem_nil _
  | succ w => exact List.forall_mem_cons.mpr ⟨h, this⟩

/-- a sequence of two or more bytes that `decodeRune` accepts has no ASCII byte -/
theorem decodeRune_width (bs : Bytes) : (decodeRune bs).2 ≥ 2 →
    ∀ b ∈ bs.take (decodeRune bs).2, b.toNat ≥ 0x80 := by
  cases bs with
  | nil => exact fun h => absurd h (by decide)
  | cons b0 rest =>
    intro hw
    refine decodeRune_taken (Nat.le_of_not_lt fun h => ?_) rest
    -- an ASCII lead byte has width 1
    rw [decodeRune, if_pos h] at hw
    exact absurd hw (by decide : ¬ 1 ≥ 2)

/-- **the JSON literal of a JSONP response is script-safe**: whatever the
    payload bytes, no `<`, `>`, `&` and no raw control character appears in it -/
theorem c16_json_literal_safe (fuel : Nat) : ∀ (s : Bytes), ∀ b ∈ jsonEscLoop fuel s, ScriptSafe b := by
  intro s
  fun_induction jsonEscLoop fuel s with
  | case1 => exact List.forall_mem_nil _
  | case2 => exact List.forall_mem_nil _
  | case3 fuel b rest hb ih => exact List.forall_mem_append.mpr ⟨jsonEscAscii_safe b, ih⟩
  | case4 fuel b rest hb bs rw h ih =>
    -- the replacement character's escape is `u4esc 0xFFFD`
    exact List.forall_mem_append.mpr ⟨u4esc_safe 0xFFFD, ih⟩
  | case5 fuel b rest hb bs rw h1 h2 ih => exact List.forall_mem_append.mpr ⟨u4esc_safe _, ih⟩
  | case6 fuel b rest hb bs rw h1 h2 ih =>
    -- a multi-byte sequence is copied as it is
    exact List.forall_mem_append.mpr
      ⟨fun x hx => safe_of_ge (decodeRune_taken (Nat.le_of_not_lt hb) rest x hx), ih⟩

/-- **JSONP responses have the fixed shape** `___eio[<digits>](<literal>);` -/
theorem c16_jsonp_shape (j payload : Bytes) :
    jsonpBody (jsonpDigits j) payload =
      "___eio[".toUTF8.toList ++ jsonpDigits j ++ "](".toUTF8.toList ++
        (34 :: jsonEscLoop (payload.length + 1) payload ++ [34]) ++ ");".toUTF8.toList := by
  rfl

end EIO.Codec

namespace EIO.Ses
open EIO EIO.Codec

/-- **compression only with a coding the request names**: the coding the
    response announces is one of the four supported ones and appears, as a
    token (trimmed, case-folded, not refused with q=0), in Accept-Encoding -/
theorem c16_coding_named (header : Bytes) (c : String) (h : acceptedEncoding header = c) (hc : c ≠ "") :
    c ∈ supportedCodings ∧ c.toUTF8.toList ∈ namedCodings header := by
  subst h
  unfold acceptedEncoding at hc ⊢
  cases hf : supportedCodings.find? fun c => (namedCodings header).contains c.toUTF8.toList with
  | none => rw [hf] at hc; exact absurd rfl hc
  | some x =>
    have hx := List.find?_some hf
    exact ⟨List.mem_of_find?_eq_some hf, List.contains_iff_mem.mp hx⟩

theorem c16_no_header_no_coding : acceptedEncoding [] = "" := by decide

/-- look-alikes are not accepted: "x-gzip2", "abracadabra", "gzip;q=0" -/
example : acceptedEncoding "x-gzip2".toUTF8.toList = "" ∧ acceptedEncoding "abracadabra".toUTF8.toList = "" ∧
    acceptedEncoding "gzip;q=0, br".toUTF8.toList = "br" ∧ acceptedEncoding "GZIP".toUTF8.toList = "gzip" := by
  decide +kernel

end EIO.Ses
