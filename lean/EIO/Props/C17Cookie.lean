import EIO.Lemmas.World
/-
C17, cookie and header events (every model state): the transport's "headers" event as `Handshake` wires it.

  * a response to a request that names no session (the handshake) gets the cookie `io=<sid>; Path=/; HttpOnly`
    of the session that owns the transport, when a cookie is configured (`c17_cookie_on_handshake`);
  * a response to a request that names a session, or any response when no cookie is configured, gets none
    (`c17_no_cookie_otherwise`);
  * with header listeners registered, `initial_headers` is emitted for the handshake response only, right before
    `headers`, and `headers` for every response (`c17_header_events_handshake`, `c17_header_events_later`).
-/
namespace EIO.Ses
open EIO EIO.Codec

theorem reqs_emitHeaders (w : World) (ti r : Nat) :
    (emitHeaders w ti r).reqs =
      (if (w.reqs.getD r default).hasSid = false ∧ w.o.cookie = true then
        w.setReq r fun q => { q with cookie := some ("io=".toUTF8.toList ++ sidBytes (w.tr ti).owner ++ "; Path=/; HttpOnly".toUTF8.toList) }
      else w).reqs := by
  rw [emitHeaders_eq]
  simp only [apply_ite World.reqs, reqs_ev, ite_self]

theorem evs_emitHeaders (w : World) (ti r : Nat) :
    (emitHeaders w ti r).evs =
      (if w.o.hdr = true then
        (if (w.reqs.getD r default).hasSid = false then w.ev s!"srv:initial_headers:{r}" else w).ev s!"srv:headers:{r}"
      else w).evs := by
  rw [emitHeaders_eq]
  dsimp only
  -- an event is made of the events so far and the clock; setting the cookie changes neither
  generalize hx : (if (w.reqs.getD r default).hasSid = false ∧ w.o.cookie = true then w.setReq r _ else w) = x
  have h : x.evs = w.evs ∧ x.now = w.now := by subst hx; split <;> exact ⟨rfl, rfl⟩
  cases w.o.hdr <;> simp only [Bool.false_eq_true, and_false, and_true, if_false, if_true]
  · exact h.1
  · split <;> simp only [World.ev, h.1, h.2]

theorem c17_cookie_on_handshake (w : World) (ti r : Nat) (hr : r < w.reqs.size)
    (hs : (w.reqs.getD r default).hasSid = false) (hc : w.o.cookie = true) :
    ((emitHeaders w ti r).reqs.getD r default).cookie =
      some ("io=".toUTF8.toList ++ sidBytes (w.tr ti).owner ++ "; Path=/; HttpOnly".toUTF8.toList) := by
  rw [reqs_emitHeaders, if_pos ⟨hs, hc⟩, req_setReq, if_pos ⟨rfl, hr⟩]

theorem c17_no_cookie_otherwise (w : World) (ti r j : Nat)
    (h : (w.reqs.getD r default).hasSid = true ∨ w.o.cookie = false) :
    ((emitHeaders w ti r).reqs.getD j default).cookie = (w.reqs.getD j default).cookie := by
  rw [reqs_emitHeaders, if_neg]
  rintro ⟨hs, hc⟩
  rcases h with h | h
  · exact Bool.false_ne_true (hs.symm.trans h)
  · exact Bool.false_ne_true (h.symm.trans hc)

/-- the handshake response: `initial_headers`, then `headers` -/
theorem c17_header_events_handshake (w : World) (ti r : Nat)
    (hs : (w.reqs.getD r default).hasSid = false) (hh : w.o.hdr = true) :
    (emitHeaders w ti r).evs = ((w.ev s!"srv:initial_headers:{r}").ev s!"srv:headers:{r}").evs := by
  rw [evs_emitHeaders, if_pos hh, if_pos hs]

/-- every later response: `headers` only -/
theorem c17_header_events_later (w : World) (ti r : Nat)
    (hs : (w.reqs.getD r default).hasSid = true) (hh : w.o.hdr = true) :
    (emitHeaders w ti r).evs = (w.ev s!"srv:headers:{r}").evs := by
  rw [evs_emitHeaders, if_pos hh, if_neg fun h => Bool.false_ne_true (h.symm.trans hs)]

/-- no listeners registered: no header event at all -/
theorem c17_no_header_events (w : World) (ti r : Nat) (hh : w.o.hdr = false) :
    (emitHeaders w ti r).evs = w.evs := by
  rw [evs_emitHeaders, if_neg (hh ▸ Bool.false_ne_true)]

end EIO.Ses
