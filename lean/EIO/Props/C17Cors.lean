import EIO.Model.Cors
/-
C17, the CORS half, for every policy and every request: what `CorsMiddleware` puts into Access-Control-Allow-Origin,
Access-Control-Allow-Credentials and `Vary`, and when it answers a preflight itself. The later stages only append headers
of other names (`Later`, `middleware_later`), so the first two stages decide.
-/
namespace EIO.Cors

def acao (out : Out) : List String := (out.headers.filter (·.1 = "Access-Control-Allow-Origin")).map (·.2)

def hasCred (out : Out) : Bool := out.headers.any (·.1 = "Access-Control-Allow-Credentials")

/-- `f` leaves alone the headers named `n`, what is in `Vary`, and whether the request was
    answered or passed on: it only appends headers of other names and `Vary` entries -/
def Later (n : String) (f : Out → Out) : Prop :=
  ∀ out, (f out).headers.filter (·.1 = n) = out.headers.filter (·.1 = n) ∧
    out.varys ⊆ (f out).varys ∧ (f out).answered = out.answered ∧ (f out).next = out.next

theorem Later.comp {n : String} {f g : Out → Out} (hg : Later n g) (hf : Later n f) :
    Later n fun out => g (f out) := fun out =>
  have ⟨a, b, c, d⟩ := hf out
  have ⟨a', b', c', d'⟩ := hg (f out)
  ⟨a'.trans a, b.trans b', c'.trans c, d'.trans d⟩

theorem later_credentials (o : Opts) {n : String} (hn : n ≠ "Access-Control-Allow-Credentials") :
    Later n (configureCredentials o) := by
  intro out; unfold configureCredentials; split <;> simp [hn.symm]

theorem later_methods (o : Opts) {n : String} (hn : n ≠ "Access-Control-Allow-Methods") :
    Later n (configureMethods o) := by
  intro out; unfold configureMethods; split <;> simp [hn.symm]

theorem later_allowedHeaders (o : Opts) (r : Req) {n : String}
    (hn : n ≠ "Access-Control-Allow-Headers") : Later n (configureAllowedHeaders o r) := by
  intro out; unfold configureAllowedHeaders; split <;> split <;> simp [hn.symm]

theorem later_maxAge (o : Opts) {n : String} (hn : n ≠ "Access-Control-Max-Age") :
    Later n (configureMaxAge o) := by
  intro out; unfold configureMaxAge; split <;> simp [hn.symm]

theorem later_exposed (o : Opts) {n : String} (hn : n ≠ "Access-Control-Expose-Headers") :
    Later n (configureExposed o) := by
  intro out; unfold configureExposed
  split
  · split <;> simp [hn.symm]
  · simp

theorem acao_configureOrigin (o : Opts) (r : Req) :
    acao (configureOrigin o r {}) =
      match o.origin with
      | .star => ["*"]
      | .fixed s => [s]
      | .test elems => [if isOriginAllowed r elems then r.origin else "false"] := by
  unfold configureOrigin acao
  cases o.origin <;> simp

theorem configureOrigin_empty (o : Opts) (r : Req) :
    ∃ v vs, configureOrigin o r {} = { headers := [("Access-Control-Allow-Origin", v)], varys := vs } := by
  unfold configureOrigin; cases o.origin <;> exact ⟨_, _, rfl⟩

/-- `CorsMiddleware` after its first two stages: the headers named `n` and `Vary` are as those
    stages left them, whatever else is appended; a preflight is answered unless it is to continue -/
theorem middleware_later (o : Opts) (r : Req) {n : String}
    (hn : n ∉ ["Access-Control-Allow-Methods", "Access-Control-Allow-Headers", "Access-Control-Max-Age",
      "Access-Control-Expose-Headers", "Content-Length"]) :
    (middleware o r).headers.filter (·.1 = n) =
        (configureCredentials o (configureOrigin o r {})).headers.filter (·.1 = n) ∧
      (configureOrigin o r {}).varys ⊆ (middleware o r).varys ∧
      (middleware o r).answered =
        (if r.method = "OPTIONS" ∧ o.preflightContinue = false then some o.status else none) ∧
      (middleware o r).next = !(r.method = "OPTIONS" && !o.preflightContinue) := by
  simp only [List.mem_cons, List.not_mem_nil, or_false, not_or] at hn
  obtain ⟨h1, h2, h3, h4, h5⟩ := hn
  -- for `Vary` any name will do
  have hc := later_credentials o (n := "") (by simp) (configureOrigin o r {})
  have ho : (configureOrigin o r {}).answered = none ∧ (configureOrigin o r {}).next = false := by
    obtain ⟨v, vs, h⟩ := configureOrigin_empty o r; rw [h]; exact ⟨rfl, rfl⟩
  have hp := (((later_exposed o h4).comp (later_maxAge o h3)).comp (later_allowedHeaders o r h2)).comp
    (later_methods o h1) (configureCredentials o (configureOrigin o r {}))
  have hs := later_exposed o h4 (configureCredentials o (configureOrigin o r {}))
  unfold middleware
  by_cases hm : r.method = "OPTIONS"
  · cases hpc : o.preflightContinue <;> simp [*, hc.2.1.trans hp.2.1, Ne.symm h5]
  · simp [*, hc.2.1.trans hs.2.1]

/-- exactly one Access-Control-Allow-Origin, and it names the request's origin only when the policy allows that origin -/
theorem c17_allow_origin (o : Opts) (r : Req) :
    acao (middleware o r) =
      match o.origin with
      | .star => ["*"]
      | .fixed s => [s]
      | .test elems => [if isOriginAllowed r elems then r.origin else "false"] := by
  rw [acao, (middleware_later o r (by simp)).1,
    (later_credentials o (by simp) (configureOrigin o r {})).1]
  exact acao_configureOrigin o r

/-- a refused origin is never named -/
theorem c17_refused_origin_not_named (o : Opts) (r : Req) (elems : List Elem) (ho : o.origin = .test elems)
    (hr : isOriginAllowed r elems = false) : acao (middleware o r) = ["false"] := by
  rw [c17_allow_origin, ho]; simp [hr]

/-- Vary: Origin whenever the Allow-Origin value is not the constant '*' -/
theorem c17_vary_origin (o : Opts) (r : Req) (h : o.origin ≠ .star) : "Origin" ∈ (middleware o r).varys := by
  refine (middleware_later o r (n := "") (by simp)).2.1 ?_  -- any name will do
  unfold configureOrigin
  cases ho : o.origin with
  | star => exact absurd ho h
  | fixed s => simp
  | test e => simp

/-- the credentials header exactly when configured -/
theorem c17_credentials (o : Opts) (r : Req) : hasCred (middleware o r) = o.credentials := by
  have key : ∀ out, hasCred out =
      (out.headers.filter (·.1 = "Access-Control-Allow-Credentials")).any fun _ => true :=
    fun out => by simp [hasCred]
  obtain ⟨v, vs, ho⟩ := configureOrigin_empty o r
  rw [key, (middleware_later o r (by simp)).1, ← key, ho]
  unfold configureCredentials hasCred
  cases o.credentials <;> simp

/-- a preflight is answered by the middleware itself with the configured status and is not passed on,
    unless the policy says to pass it on; every other request is passed on unanswered -/
theorem c17_preflight (o : Opts) (r : Req) :
    (r.method = "OPTIONS" → o.preflightContinue = false → (middleware o r).answered = some o.status ∧ (middleware o r).next = false) ∧
    (r.method = "OPTIONS" → o.preflightContinue = true → (middleware o r).answered = none ∧ (middleware o r).next = true) ∧
    (r.method ≠ "OPTIONS" → (middleware o r).answered = none ∧ (middleware o r).next = true) := by
  obtain ⟨_, _, ha, hx⟩ := middleware_later o r (n := "") (by simp)  -- any name will do
  rw [ha, hx]
  refine ⟨fun hm hp => ?_, fun hm hp => ?_, fun hm => ?_⟩ <;> simp [*]

/-- non-vacuity: a list policy, an allowed and a refused origin -/
example : acao (middleware { origin := .test [.str "https://a.example", .re 0] } { method := "GET", origin := "https://a.example", reMatch := [false] }) = ["https://a.example"]
    ∧ acao (middleware { origin := .test [.str "https://a.example", .re 0] } { method := "GET", origin := "https://evil.example", reMatch := [false] }) = ["false"] := by
  decide +kernel

end EIO.Cors
