import EIO.Props.C06Open
/-
C18, "packetCreate fires exactly once for every accepted Send before the packet is buffered": for every model state,
`Send` on a session that accepts packets logs exactly one `packetCreate` entry, carrying that message, whatever the
flush it triggers goes on to do (close paths, drain callbacks, writer hand-off: the `NPC` chain); `Send` without a
callback on a session that is closing or closed changes nothing (C03: silently discarded).
-/
namespace EIO.Ses
open EIO EIO.Codec

theorem c18_send_one_packetCreate (w : World) (sid : Nat) (m : Msg) (compress wantCb : Bool) (pre : Option Msg)
    (h : ¬ ((w.sock sid).rs = .closing ∨ (w.sock sid).rs = .closed ∨ w.socks.size ≤ sid)) :
    createdPkts sid (appSend w sid m compress wantCb pre).slog =
      createdPkts sid w.slog ++ [{ typ := .message, data := some m, compress, pre }] := by
  unfold appSend
  cases wantCb
  · exact (sendPacket_created w sid _ _ h).1
  · exact (sendPacket_created ({ w with cbSeq := w.cbSeq + 1 } : World) sid _ _ h).1

theorem c18_send_discarded_when_not_open (w : World) (sid : Nat) (m : Msg) (compress : Bool) (pre : Option Msg)
    (h : (w.sock sid).rs = .closing ∨ (w.sock sid).rs = .closed) :
    appSend w sid m compress false pre = w := by
  unfold appSend sendPacket
  exact if_pos (h.imp_right .inl)

end EIO.Ses
