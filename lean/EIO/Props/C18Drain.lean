import EIO.Lemmas.SesOps
/-
C18 / C12, per model state:

  * a hand-off logs the flush entry (with exactly the buffered packets and callbacks) immediately followed by the
    drain entry of the same session, and nothing else (`c18_flush_then_drain`; a session waiting for this drain to
    close gracefully goes on to log its close after them);
  * when a polling transport closes with a poll pending and idle, a writer with a noop packet is started for it
    before the transport is marked closed: the poll is released (`c12_close_releases_pending_poll`); with a batch
    in flight the writer already running answers it.
-/
namespace EIO.Ses
open EIO EIO.Codec

theorem c18_flush_then_drain (f : Nat) (w : World) (sid : Nat) (hdc : (w.sock sid).drainClose = none)
    (hgo : ¬ ((w.sock sid).rs = .closed ∨ ¬ (w.tr (w.sock sid).tr).writable = true ∨ (w.sock sid).wbuf.isEmpty = true)) :
    (flushF (f + 1) w sid).slog =
      w.slog ++ [(sid, .flush (w.sock sid).wbuf (w.sock sid).packetsFn), (sid, .drain)] := by
  rw [flushF, if_neg hgo]
  dsimp only
  generalize hw2 : World.sev _ sid SEv.drain = w2
  have hl2 : w2.slog = w.slog ++ [(sid, .flush (w.sock sid).wbuf (w.sock sid).packetsFn), (sid, .drain)] := by
    rw [← hw2, slog_sev, slog_trSend, slog_ev, slog_sev, slog_setSock, List.append_assoc]; rfl
  -- no drain listener was there and none is installed on the way: the hand-off does not go on to close the session
  have hd2 : (w2.sock sid).drainClose = none := by
    rw [← hw2, sock_sev, sock_trSend, sock_ev, sock_sev, sock_setSock]
    split <;> exact hdc
  rw [slog_ev, hd2]; exact hl2

/-- a polling transport that closes while its poll is pending and idle first starts a writer with a noop packet -/
theorem c12_close_releases_pending_poll (f : Nat) (w : World) (ti : Nat) (hp : (w.tr ti).isPolling = true)
    (hw : (w.tr ti).writable = true) :
    ∃ w1, pollOnCloseF (f + 1) w ti = trOnCloseBaseF f w1 ti ∧ w1.tasks = w.tasks ++ [.pollSend ti [{ typ := .noop }]] ∧
      (w1.tr ti).writable = false := by
  refine ⟨trSend w ti [{ typ := .noop }], ?_, ?_, ?_⟩
  · rw [pollOnCloseF, if_pos hw]
  · rw [tasks_trSend, if_pos hp]
  · show ((w.setTr ti fun t => { t with writable := false }).tr ti).writable = false
    rw [tr_setTr, if_pos ⟨rfl, tr_in_table (·.isPolling) rfl hp⟩]

end EIO.Ses
