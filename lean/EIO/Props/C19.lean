import EIO.Model.Timer
/-
C19 — timers fire exactly once when due, never after cancellation, refresh
re-arms, an interval runs once per period until cancelled; a cancellation that
waits has a waiter left to release it, no callback starts after it returns and
no goroutine is left behind.
First every interleaving of clock, waiter goroutine and two concurrent Stop
callers (`TS`), then the timing laws at quiescent points for every period and
instant (`Tm`).
-/
namespace EIO.Timer
open EIO

def allTh : List Th := [.clock, .waiterTick, .waiterStop1, .waiterStop2, .waiterRearm, .stop1, .stop2]

theorem allTh_complete (th : Th) : th ∈ allTh := by cases th <;> decide

/-- depth-first closure under `tstep`: the states still to visit, the states visited -/
def close : Nat → List TS → List TS → List TS
  | 0, _, seen => seen
  | _ + 1, [], seen => seen
  | fuel + 1, x :: todo, seen =>
    if seen.contains x then close fuel todo seen
    else close fuel (allTh.filterMap (tstep x) ++ todo) (x :: seen)

/-- the states reachable from a freshly started timer (computed; that the fuel
    sufficed is part of what the kernel checks below: the list is closed) -/
def reach (interval : Bool) : List TS := close 100 [{ interval }] []

def closedB (l : List TS) : Bool :=
  l.all fun x => allTh.all fun th => match tstep x th with
    | some x' => l.contains x'
    | none => true

theorem reach_cert (i : Bool) :
    ({ interval := i } : TS) ∈ reach i ∧ closedB (reach i) = true ∧ (reach i).all TS.Safe = true := by
  cases i <;> decide +kernel

theorem reach_closedB : closedB (reach true) = true ∧ closedB (reach false) = true :=
  ⟨(reach_cert true).2.1, (reach_cert false).2.1⟩

theorem reach_safeB : (reach true).all TS.Safe = true ∧ (reach false).all TS.Safe = true :=
  ⟨(reach_cert true).2.2, (reach_cert false).2.2⟩

theorem run_mem {l : List TS} (hl : closedB l = true) (sched : List Th) : ∀ x ∈ l, x.run sched ∈ l := by
  induction sched with
  | nil => exact fun x hx => hx
  | cons th rest ih =>
    intro x hx
    have h := List.all_eq_true.mp (List.all_eq_true.mp hl x hx) th (allTh_complete th)
    rw [TS.run]
    cases hs : tstep x th with
    | none => exact ih x hx
    | some x' => rw [hs] at h; exact ih x' (List.contains_iff_mem.mp h)

/-- **C19, every schedule.** For a timeout and for an interval, under every
    interleaving (of any length) of the clock, the waiter goroutine and two
    concurrent cancellations: no callback starts after a `Stop` has returned; a
    `Stop` waiting on `stopCh` always has a waiter that has not exited and can take
    its signal (that the waiter is scheduled is not part of the model); and once a
    `Stop` has returned the runtime timer is not armed and the waiter goroutine
    has exited or is about to. -/
theorem c19_cancel_all_interleavings (interval : Bool) (sched : List Th) :
    (({ interval } : TS).run sched).Safe = true :=
  have ⟨h0, hl, hsafe⟩ := reach_cert interval
  List.all_eq_true.mp hsafe _ (run_mem hl sched _ h0)

/-- the defect this guards against (the code before commit 15f4c8d): without the
    `stopped` check under `mu`, an interval that receives a tick, is cancelled,
    and then re-arms keeps ticking although `Stop` has returned -/
def tstepOld (x : TS) : Th → Option TS
  | .waiterRearm =>
    if x.w = .gotTick then
      some { x with rt := .armed, w := .selecting, lateCallback := x.lateCallback || x.someReturned }
    else none
  | th => tstep x th

theorem c19_interval_cancel_window_counterexample :
    let run := fun (x : TS) (ths : List Th) => ths.foldl (fun x th => (tstepOld x th).getD x) x
    let x := run { interval := true } [.clock, .waiterTick, .stop1, .waiterRearm]
    x.s1 = .returned ∧ x.rt = .armed ∧ x.w = .selecting ∧ x.lateCallback = true := by
  decide

/-- the bookkeeping invariant: a waiter goroutine exists exactly while the
    runtime timer is armed -/
def Tm.Inv (t : Tm) : Prop := t.waiters = (if t.due.isSome then 1 else 0) ∧ (t.stopped → t.due = none)

theorem Tm.start_inv (i : Bool) (p now : Nat) : (Tm.start i p now).Inv := ⟨rfl, nofun⟩

theorem Tm.stop_inv (t : Tm) (h : t.Inv) : t.stop.Inv ∧ t.stop.due = none ∧ t.stop.waiters = 0 := by
  unfold Tm.stop Tm.Inv at *
  cases hd : t.due <;> simp_all

theorem Tm.refresh_inv (t : Tm) (now : Nat) (h : t.Inv) :
    (t.refresh now).Inv ∧ (t.refresh now).due = some (now + t.period) ∧ (t.refresh now).waiters = 1 := by
  unfold Tm.refresh Tm.Inv at *
  cases hd : t.due with
  | none => simp [hd] at h ⊢; omega
  | some d => simp [hd] at h ⊢; exact h.1

theorem Tm.fire_inv (t : Tm) (d : Nat) (h : t.Inv) (hd : t.due = some d) : (t.fire d).Inv := by
  unfold Tm.fire Tm.Inv at *
  simp [hd] at h
  have hns : t.stopped = false := h.2
  by_cases hi : t.interval = true <;> simp [hi, hns, h.1]

theorem Tm.advance_idle (fuel : Nat) (t : Tm) (target : Nat) (h : t.due = none) :
    Tm.advance fuel t target = (t, []) := by
  cases fuel <;> simp [Tm.advance, h]

theorem Tm.advance_early (fuel : Nat) (t : Tm) (target d : Nat) (h : t.due = some d) (ht : target < d) :
    Tm.advance fuel t target = (t, []) := by
  cases fuel <;> simp [Tm.advance, h, Nat.not_le_of_gt ht]

theorem Tm.advance_fire (fuel : Nat) (t : Tm) (target d : Nat) (h : t.due = some d) (ht : d ≤ target)
    (hw : 0 < t.waiters) :
    Tm.advance (fuel + 1) t target =
      ((Tm.advance fuel (t.fire d) target).1, d :: (Tm.advance fuel (t.fire d) target).2) := by
  simp [Tm.advance, h, ht, hw]

theorem Tm.advance_inv (fuel : Nat) : ∀ (t : Tm) (target : Nat), t.Inv → (Tm.advance fuel t target).1.Inv := by
  induction fuel with
  | zero => intro t target h; exact h
  | succ fuel ih =>
    intro t target h
    unfold Tm.advance
    cases hd : t.due with
    | none => exact h
    | some d =>
      simp only
      split
      · exact ih _ _ (Tm.fire_inv t d h hd)
      · exact h

/-- **a timeout's callback runs exactly once, at its due time**: started at
    `t0`, left alone until any `target ≥ t0 + period`: one callback, stamped
    `t0 + period`; afterwards nothing is armed and no goroutine remains; letting
    more time pass starts nothing -/
theorem c19_timeout_once_when_due (period t0 target later fuel fuel' : Nat) (hf : fuel ≥ 2)
    (ht : t0 + period ≤ target) :
    Tm.advance fuel (Tm.start false period t0) target =
      ({ interval := false, period, due := none, waiters := 0 }, [t0 + period]) ∧
    (Tm.advance fuel' { interval := false, period, due := none, waiters := 0 } later).2 = [] := by
  obtain ⟨f, rfl⟩ := Nat.exists_eq_add_of_le' hf
  rw [Tm.advance_fire (f + 1) _ target _ rfl ht Nat.one_pos, Tm.advance_idle _ _ _ rfl,
    Tm.advance_idle _ _ _ rfl]
  exact ⟨rfl, rfl⟩

/-- not before: until its due instant nothing happens -/
theorem c19_timeout_not_early (i : Bool) (period t0 target fuel : Nat) (ht : target < t0 + period) :
    Tm.advance fuel (Tm.start i period t0) target = (Tm.start i period t0, []) :=
  Tm.advance_early fuel _ target _ rfl ht

/-- **cancelled before it is due, it never runs**, and nothing is left behind -/
theorem c19_cancel_before_due_never_runs (i : Bool) (period t0 later fuel : Nat) :
    let t := (Tm.start i period t0).stop
    t.due = none ∧ t.waiters = 0 ∧ (Tm.advance fuel t later).2 = [] :=
  ⟨rfl, rfl, by rw [Tm.advance_idle _ _ _ rfl]⟩

/-- **refresh re-arms for one full period**, whether the timer is still pending,
    has fired, or was cancelled: the next callback is stamped `now + period` -/
theorem c19_refresh_rearms (t : Tm) (now target fuel : Nat) (h : t.Inv) (hf : fuel ≥ 1)
    (ht : now + t.period ≤ target) :
    (t.refresh now).due = some (now + t.period) ∧
    (Tm.advance fuel (t.refresh now) target).2.head? = some (now + t.period) := by
  obtain ⟨_, hd, hw⟩ := Tm.refresh_inv t now h
  obtain ⟨f, rfl⟩ := Nat.exists_eq_add_of_le' hf
  exact ⟨hd, by rw [Tm.advance_fire f _ target _ hd ht (by omega)]; rfl⟩

/-- an interval started at `t0`, at any instant of its `n + 1`-st period and with fuel for `n` ticks: `n` callbacks,
    stamped `t0 + period, t0 + 2·period, …`, and the next one due at the end of that period -/
theorem interval_ticks (period : Nat) (n : Nat) :
    ∀ (t0 fuel target : Nat), n < fuel → t0 + n * period ≤ target → target < t0 + (n + 1) * period →
      Tm.advance fuel (Tm.start true period t0) target =
      ({ interval := true, period, due := some (t0 + (n + 1) * period), waiters := 1 },
       (List.range n).map fun k => t0 + (k + 1) * period) := by
  have step : ∀ a k, a + period + k * period = a + (k + 1) * period := fun a k => by
    rw [Nat.add_mul, Nat.one_mul]; omega
  induction n with
  | zero =>
    intro t0 fuel target _ _ h2
    rw [Nat.zero_add, Nat.one_mul] at h2 ⊢
    exact Tm.advance_early fuel _ _ _ rfl h2
  | succ n ih =>
    intro t0 fuel target hf h1 h2
    obtain ⟨f, rfl⟩ := Nat.exists_eq_succ_of_ne_zero (Nat.ne_of_gt (Nat.zero_lt_of_lt hf))
    -- after its first tick the interval is an interval started one period later
    have hfire : (Tm.start true period t0).fire (t0 + period) = Tm.start true period (t0 + period) := rfl
    have hle : t0 + period ≤ target := Nat.le_trans (by rw [Nat.add_mul, Nat.one_mul]; omega) h1
    rw [Tm.advance_fire f _ _ (t0 + period) rfl hle Nat.one_pos, hfire,
      ih (t0 + period) f target (Nat.lt_of_succ_lt_succ hf) (by rw [step]; exact h1) (by rw [step]; exact h2),
      List.range_succ_eq_map]
    simp only [step, List.map_cons, List.map_map, Nat.zero_add, Nat.one_mul]
    rfl

/-- **an interval runs once per period**: the `n` first callbacks are stamped
    `t0 + period, t0 + 2·period, …` -/
theorem c19_interval_each_period (period : Nat) (hp : 0 < period) (n : Nat) :
    ∀ (t0 : Nat), Tm.advance (n + 1) (Tm.start true period t0) (t0 + n * period) =
      ({ interval := true, period, due := some (t0 + (n + 1) * period), waiters := 1 },
       (List.range n).map fun k => t0 + (k + 1) * period) := fun t0 =>
  interval_ticks period n t0 (n + 1) _ (Nat.lt_succ_self n) (Nat.le_refl _) (by rw [Nat.add_mul, Nat.one_mul]; omega)

example : (Tm.advance 10 (Tm.start true 10 0) 35).2 = [10, 20, 30] := by decide
example : (Tm.advance 10 ((Tm.start true 10 0).stop) 35).2 = [] := by decide

end EIO.Timer
