import EIO.Model.Containers
/-
C20 (event emitter): Emit calls every listener registered when the call
starts, in registration order, exactly once per emit; a Once listener runs at
most once overall; removing a listener removes exactly one registration of that
function (the first) and never panics, nil listeners included.
-/
namespace EIO.Cont
open EIO

/-- `RemoveListener` is `List.eraseP`: the first slot that holds a registration of `f` goes -/
theorem emRemove_eq (s : Slots) (f : Nat) :
    emRemove s f = (s.eraseP fun o => o.any (·.fn = f), s.any fun o => o.any (·.fn = f)) := by
  induction s with
  | nil => rfl
  | cons x rest ih =>
    rcases x with _ | e
    · simp [emRemove, ih]
    · by_cases hef : e.fn = f <;> simp [emRemove, hef, ih]

/-- `RemoveListener` is total (nil slots are skipped, not dereferenced) and
    removes exactly the first registration of the function, if there is one -/
theorem c20_remove_exactly_one (s : Slots) (f : Nat) :
    ((∃ e, some e ∈ s ∧ e.fn = f) →
      (emRemove s f).2 = true ∧
      ∃ pre e post, s = pre ++ some e :: post ∧ e.fn = f ∧
        (∀ e', some e' ∈ pre → e'.fn ≠ f) ∧ (emRemove s f).1 = pre ++ post) ∧
    ((¬ ∃ e, some e ∈ s ∧ e.fn = f) → emRemove s f = (s, false)) := by
  rw [emRemove_eq]
  constructor
  · rintro ⟨e, he, hf⟩
    obtain ⟨o, pre, post, hpre, ho, hs, hr⟩ :=
      List.exists_of_eraseP (p := fun o => o.any (·.fn = f)) he (decide_eq_true hf)
    rcases o with _ | e0
    · cases ho
    · exact ⟨List.any_eq_true.mpr ⟨_, he, decide_eq_true hf⟩, pre, e0, post, hs, of_decide_eq_true ho,
        fun e' he' hf' => hpre _ he' (decide_eq_true hf'), hr⟩
  · intro hn
    have : ∀ o ∈ s, ¬ (o.any (·.fn = f)) = true := by
      rintro (_ | e) ho
      · nofun
      · exact fun hf => hn ⟨e, ho, of_decide_eq_true hf⟩
    rw [List.eraseP_of_forall_not this, List.any_eq_false.mpr this]

theorem emRemove_length (s : Slots) (f : Nat) :
    ((emRemove s f).2 = true → (emRemove s f).1.length + 1 = s.length) ∧
    ((emRemove s f).2 = false → (emRemove s f).1.length = s.length) := by
  rw [emRemove_eq, List.length_eraseP]
  refine ⟨fun h => ?_, fun h => if_neg (Bool.eq_false_iff.mp h)⟩
  obtain ⟨o, ho, _⟩ := List.any_eq_true.mp h
  rw [if_pos h]; exact Nat.sub_add_cancel (List.length_pos_of_mem ho)

/-- the call an entry of the snapshot gives rise to, given which once-wrappers
    had fired before the emit started -/
def callOf (spent : List Nat) : Option Entry → Option Call
  | none => none
  | some e => if e.once ∧ e.uid ∈ spent then none else some ⟨e.uid, e.fn⟩

def uids (s : List (Option Entry)) : List Nat := s.filterMap fun o => o.map (·.uid)

theorem uids_cons_some (e : Entry) (s : List (Option Entry)) : uids (some e :: s) = e.uid :: uids s := rfl

theorem uids_append (s t : List (Option Entry)) : uids (s ++ t) = uids s ++ uids t := List.filterMap_append

theorem mem_uids {s : List (Option Entry)} {u : Nat} : u ∈ uids s ↔ ∃ e, some e ∈ s ∧ e.uid = u := by
  rw [uids, List.mem_filterMap]
  constructor
  · rintro ⟨_ | e, ho, hu⟩
    · cases hu
    · exact ⟨e, ho, Option.some.inj hu⟩
  · rintro ⟨e, he, rfl⟩
    exact ⟨some e, he, rfl⟩

theorem emitLoop_spent (snap : List (Option Entry)) (cur : Em) (calls : List Call) (u : Nat) :
    u ∈ (emitLoop (fun _ x => x) snap cur calls).1.spent ↔
      u ∈ cur.spent ∨ ∃ e, some e ∈ snap ∧ e.once ∧ e.uid = u := by
  fun_induction emitLoop (fun _ x => x) snap cur calls with
  | case1 cur calls => simp
  | case2 snap cur calls ih => simp [ih]
  | case3 e snap cur calls ho hs ih =>
    simp only [ih, List.mem_cons, Option.some.injEq, exists_eq_or_imp, ho, true_and]
    exact ⟨Or.imp_right Or.inr, fun h => h.elim Or.inl fun h => h.elim (fun hu => Or.inl (hu ▸ hs)) Or.inr⟩
  | case4 e snap cur calls ho hs c1 c2 ih =>
    rw [ih, show (c2.remove e.fn).fst.spent = e.uid :: cur.spent from rfl]
    simp only [List.mem_cons, Option.some.injEq, exists_eq_or_imp, ho, true_and]
    simp only [or_assoc, or_left_comm, eq_comm]
  | case5 e snap cur calls ho ih => simp [ih, ho]

/-- the calls of an emit, read off the snapshot with any `sp` that tells, for the snapshot's own
    registrations, which once-wrappers had fired at the start: since identities are distinct, a
    wrapper that fires during the emit is none of the later entries. `react` is what a listener does to the
    live emitter when it is called (`On`, `Once`, `RemoveListener` from inside a listener): anything that
    leaves the record of fired once-wrappers alone. -/
theorem emitLoop_calls (react : Nat → Em → Em) (hreact : ∀ f c, (react f c).spent = c.spent)
    (snap : List (Option Entry)) (cur : Em) (calls : List Call) (sp : List Nat)
    (hnd : (uids snap).Nodup) (hsp : ∀ u ∈ uids snap, u ∈ sp ↔ u ∈ cur.spent) :
    (emitLoop react snap cur calls).2 = calls ++ snap.filterMap (callOf sp) := by
  fun_induction emitLoop react snap cur calls with
  | case1 cur calls => exact (List.append_nil _).symm
  | case2 snap cur calls ih => exact ih hnd hsp
  | case3 e snap cur calls ho hs ih =>
    have he := hsp e.uid List.mem_cons_self
    rw [List.filterMap_cons_none (show callOf sp (some e) = none from if_pos ⟨ho, he.2 hs⟩)]
    exact ih (List.nodup_cons.mp hnd).2 fun u hu => hsp u (List.mem_cons_of_mem _ hu)
  | case4 e snap cur calls ho hs c1 c2 ih =>
    have he := hsp e.uid List.mem_cons_self
    obtain ⟨hfresh, hnd⟩ := List.nodup_cons.mp (uids_cons_some e snap ▸ hnd)
    rw [List.filterMap_cons_some (show callOf sp (some e) = some ⟨e.uid, e.fn⟩ from if_neg fun h => hs (he.1 h.2))]
    refine (ih hnd fun u hu => (hsp u (List.mem_cons_of_mem _ hu)).trans ?_).trans (List.append_cons ..).symm
    rw [show (c2.remove e.fn).1.spent = c2.spent from rfl, show c2.spent = e.uid :: cur.spent from hreact _ _]
    exact ⟨List.mem_cons_of_mem _, fun h => (List.mem_cons.1 h).resolve_left fun h' => hfresh (h' ▸ hu)⟩
  | case5 e snap cur calls ho ih =>
    rw [List.filterMap_cons_some (show callOf sp (some e) = some ⟨e.uid, e.fn⟩ from if_neg fun h => ho h.1)]
    refine (ih (List.nodup_cons.mp hnd).2 fun u hu => ?_).trans (List.append_cons ..).symm
    rw [hreact]; exact hsp u (List.mem_cons_of_mem _ hu)

/-- **Emit calls every listener registered when the call starts, in
    registration order, exactly once** (nil slots skipped; a once-wrapper only
    if it has not fired before), whatever the removals the once-wrappers perform
    on the live list during the emit -/
theorem c20_emit_snapshot_order_once (e : Em) (h : (uids e.slots).Nodup) :
    (e.emit).2 = e.slots.filterMap (callOf e.spent) :=
  emitLoop_calls _ (fun _ _ => rfl) e.slots e [] e.spent h fun _ _ => Iff.rfl

theorem uid_unique (s : List (Option Entry)) (h : (uids s).Nodup) (x y : Entry)
    (hx : some x ∈ s) (hy : some y ∈ s) (hu : y.uid = x.uid) : y = x := by
  induction s with
  | nil => cases hx
  | cons o rest ih =>
    rcases o with _ | e
    · exact ih h (by simpa using hx) (by simpa using hy)
    · rw [uids_cons_some] at h
      obtain ⟨hfresh, h⟩ := List.nodup_cons.mp h
      rcases List.mem_cons.mp hx with hxe | hxr <;> rcases List.mem_cons.mp hy with hye | hyr
      · rw [Option.some.inj hxe, Option.some.inj hye]
      · cases hxe; exact absurd (mem_uids.mpr ⟨y, hyr, hu⟩) hfresh
      · cases hye; exact absurd (mem_uids.mpr ⟨x, hxr, hu.symm⟩) hfresh
      · exact ih h hxr hyr

/-- **a Once listener runs at most once overall**: it is called in an emit only
    if it had not fired before, and from then on it counts as fired -/
theorem c20_once_at_most_once (e : Em) (h : (uids e.slots).Nodup) (x : Entry)
    (hx : some x ∈ e.slots) (ho : x.once = true) :
    (⟨x.uid, x.fn⟩ ∈ (e.emit).2 → x.uid ∉ e.spent) ∧ x.uid ∈ (e.emit).1.spent := by
  refine ⟨fun hc hs => ?_, (emitLoop_spent e.slots e [] x.uid).mpr (.inr ⟨x, hx, ho, rfl⟩)⟩
  rw [c20_emit_snapshot_order_once e h] at hc
  obtain ⟨_ | y, hmem, hco⟩ := List.mem_filterMap.mp hc
  · cases hco
  · simp only [callOf] at hco
    split at hco
    · cases hco
    · rename_i hn
      cases uid_unique e.slots h x y hx hmem (Call.mk.inj (Option.some.inj hco)).1
      exact hn ⟨ho, hs⟩

theorem mkEntries_uids (fns : List (Option Nat)) (once : Bool) (n : Nat) :
    (uids (mkEntries fns once n)).Sublist (List.range' n fns.length) := by
  induction fns generalizing n with
  | nil => exact .slnil
  | cons f rest ih =>
    rcases f with _ | id
    · exact (ih (n + 1)).cons n
    · exact (ih (n + 1)).cons_cons n

/-- what `c20_emit_snapshot_order_once` asks of an emitter, with the bound that lets `On` / `Once`
    keep it (`inv_init`, `inv_add`); `RemoveListener` and `Emit` only take slots away -/
def Em.Inv (e : Em) : Prop := (uids e.slots).Nodup ∧ ∀ u ∈ uids e.slots, u < e.next

theorem Em.inv_init : ({} : Em).Inv := ⟨.nil, nofun⟩

theorem Em.inv_add (e : Em) (fns : List (Option Nat)) (once : Bool) (h : e.Inv) : (e.add fns once).Inv := by
  obtain ⟨h1, h2⟩ := h
  have m := mkEntries_uids fns once e.next
  have hm : ∀ u ∈ uids (mkEntries fns once e.next), e.next ≤ u ∧ u < e.next + fns.length :=
    fun u hu => List.mem_range'_1.mp (m.mem hu)
  rw [Em.Inv, Em.add, uids_append]
  refine ⟨List.nodup_append.mpr ⟨h1, m.nodup (List.nodup_range' 1), ?_⟩, fun u hu => ?_⟩
  · rintro a ha _ hb rfl
    exact Nat.lt_irrefl _ (Nat.lt_of_lt_of_le (h2 a ha) (hm a hb).1)
  · rcases List.mem_append.mp hu with hu | hu
    · exact Nat.lt_of_lt_of_le (h2 u hu) (Nat.le_add_right _ _)
    · exact (hm u hu).2

/-- non-vacuity: On f0, Once f1, nil, On f0; the second emit no longer calls f1;
    removing f0 takes the first registration only -/
example :
    let e0 := (((({} : Em).add [some 0] false).add [some 1] true).add [none, some 0] false)
    let (e1, c1) := e0.emit
    let (e2, c2) := e1.emit
    (c1.map (·.fn), c2.map (·.fn), (e2.remove 0).1.slots.length, (e2.remove 0).2) =
      ([0, 1, 0], [0, 0], 2, true) := by decide +kernel

end EIO.Cont
