import EIO.Lemmas.SyncMapSteps
/-!
C20, `types.Map` (the port of sync.Map): executed by one goroutine at a time,
every method behaves like the same method of an ordinary map, for every
history. `St.abs` is the ordinary map a state stands for; each theorem says
that a method returns what the ordinary map returns, leaves the state standing
for the updated ordinary map, and keeps the invariant `WF` (which contains
"no assignment into the nil dirty map", the one Go panic the code can reach).
`trace_refines` lifts this to every sequence of calls.

Every method but `Range` and `Clear` finds the entry of its key (in the read map, or under the
mutex in the dirty map, with the internal steps of `SyncMapSteps` on the way) and then works on
that entry alone: the `*_ent` lemmas say what the entry operation does to `St.abs`.
-/
namespace EIO.SMap

theorem load_refines {s : St} (h : WF s) (k : Int) :
    WF (s.load k).1 ∧ (s.load k).2 = s.abs k ∧ (s.load k).1.abs = s.abs := by
  unfold St.load
  cases hr : lk s.read k with
  | some e => exact ⟨h, (abs_of_ent (ent_of_read hr)).symm, rfl⟩
  | none =>
    dsimp only
    by_cases ha : s.amended = true
    · rw [if_pos ha, eload_missLocked, abs_eq, ent_of_amended hr ha]
      -- with the projections of the pair reduced first, `exact` unifies at once (here and below)
      dsimp only
      exact ⟨wf_missLocked h, rfl, abs_missLocked h ha⟩
    · rw [if_neg ha]; exact ⟨h, (abs_of_not_amended hr (eq_false_of_ne_true ha)).symm, rfl⟩

theorem swap_ent {s : St} (h : WF s) {k : Int} {e : Nat} (he : s.ent k = some e) (hl : s.slot e ≠ .expunged)
    (v : Int) :
    WF (s.setSlot e (.val v)) ∧ s.eload e = s.abs k ∧ (s.setSlot e (.val v)).abs = upd s.abs k (some v) :=
  ⟨wf_setSlot h hl nofun, (abs_of_ent he).symm, h.abs_setSlot he _⟩

theorem swap_refines {s : St} (h : WF s) (k v : Int) :
    WF (s.swap k v).1 ∧ (s.swap k v).2 = s.abs k ∧ (s.swap k v).1.abs = upd s.abs k (some v) := by
  unfold St.swap
  cases hr : lk s.read k with
  | some e =>
    dsimp only
    by_cases hx : s.slot e = .expunged
    · rw [if_pos hx, hr]; dsimp only; rw [if_pos hx]
      obtain ⟨⟨w, ab⟩, he, sl⟩ := wf_unexp h hr hx
      rw [← ab]; exact swap_ent w he (sl ▸ nofun) v
    · rw [if_neg hx]; exact swap_ent h (ent_of_read hr) hx v
  | none =>
    dsimp only; rw [hr]; dsimp only
    cases hd : lk s.dl k with
    | some e => exact swap_ent h (h.ent_of_dirty hr hd).2 (h.dlive k e hd) v
    | none => exact ⟨(wf_addNew h v hr).1, (abs_of_miss hr hd).symm, (wf_addNew h v hr).2⟩

/- `specNext` and `agrees` below reuse the matcher this statement makes (`tryLoadOrStore_live.match_1`):
   under another name, or behind another `match` on an `Option Int`, their terms change. -/
theorem tryLoadOrStore_live {s : St} (h : WF s) {k : Int} {e : Nat} (he : s.ent k = some e)
    (hl : s.slot e ≠ .expunged) (v : Int) :
    WF (s.tryLoadOrStore e v).1 ∧
    (s.tryLoadOrStore e v).2 = some (match s.abs k with | some x => (x, true) | none => (v, false)) ∧
    (s.tryLoadOrStore e v).1.abs = (match s.abs k with | some _ => s.abs | none => upd s.abs k (some v)) := by
  rw [abs_of_ent he]; unfold St.tryLoadOrStore
  cases hs : s.slot e with
  | expunged => exact absurd hs hl
  | val x => exact ⟨h, rfl, rfl⟩
  | nil => exact ⟨wf_setSlot h (hs ▸ nofun) nofun, rfl, h.abs_setSlot he _⟩

theorem amended_tryLoadOrStore (s : St) (e : Nat) (v : Int) :
    (s.tryLoadOrStore e v).1.amended = s.amended := by
  unfold St.tryLoadOrStore; split <;> rfl

theorem loadOrStore_refines {s : St} (h : WF s) (k v : Int) :
    WF (s.loadOrStore k v).1 ∧
    (s.loadOrStore k v).2 = (match s.abs k with | some x => (x, true) | none => (v, false)) ∧
    (s.loadOrStore k v).1.abs = (match s.abs k with | some _ => s.abs | none => upd s.abs k (some v)) := by
  unfold St.loadOrStore
  cases hr : lk s.read k with
  | some e =>
    dsimp only
    by_cases hx : s.slot e = .expunged
    · have e1 : s.tryLoadOrStore e v = (s, none) := by unfold St.tryLoadOrStore; rw [hx]
      rw [e1]; dsimp only; rw [hr]; dsimp only; rw [if_pos hx]
      obtain ⟨⟨w, ab⟩, he, sl⟩ := wf_unexp h hr hx
      obtain ⟨w', r, ab'⟩ := tryLoadOrStore_live w he (sl ▸ nofun) v
      rw [ab] at r ab'
      exact ⟨w', congrArg (Option.getD · (0, false)) r, ab'⟩
    · obtain ⟨w, r, ab⟩ := tryLoadOrStore_live h (ent_of_read hr) hx v
      cases ht : s.tryLoadOrStore e v with
      | mk s' o => rw [ht] at w r ab; subst r; exact ⟨w, rfl, ab⟩
  | none =>
    dsimp only; rw [hr]; dsimp only
    cases hd : lk s.dl k with
    | some e =>
      obtain ⟨ha, he⟩ := h.ent_of_dirty hr hd
      obtain ⟨w, r, ab⟩ := tryLoadOrStore_live h he (h.dlive k e hd) v
      dsimp only
      exact ⟨wf_missLocked w, congrArg (Option.getD · (0, false)) r,
        (abs_missLocked w ((amended_tryLoadOrStore s e v).trans ha)).trans ab⟩
    | none => rw [abs_of_miss hr hd]; exact ⟨(wf_addNew h v hr).1, rfl, (wf_addNew h v hr).2⟩

theorem edelete_ent {s : St} (h : WF s) {k : Int} {e : Nat} (he : s.ent k = some e) :
    WF (s.edelete e).1 ∧ (s.edelete e).2 = s.abs k ∧ (s.edelete e).1.abs = upd s.abs k none := by
  have ha := abs_of_ent he
  rw [ha]; unfold St.edelete
  cases hs : s.slot e with
  | val x => exact ⟨wf_setSlot h (hs ▸ nofun) nofun, rfl, h.abs_setSlot he _⟩
  | nil => exact ⟨h, rfl, (upd_self (ha.trans (congrArg Slot.load hs))).symm⟩
  | expunged => exact ⟨h, rfl, (upd_self (ha.trans (congrArg Slot.load hs))).symm⟩

theorem loadAndDelete_refines {s : St} (h : WF s) (k : Int) :
    WF (s.loadAndDelete k).1 ∧ (s.loadAndDelete k).2 = s.abs k ∧
      (s.loadAndDelete k).1.abs = upd s.abs k none := by
  unfold St.loadAndDelete
  cases hr : lk s.read k with
  | some e => exact edelete_ent h (ent_of_read hr)
  | none =>
    dsimp only
    by_cases ha : s.amended = true
    · rw [if_pos ha, show ({ s with dirty := s.dirty.map (del · k) } : St) = s.dirtyDel k from rfl]
      obtain ⟨w, ab⟩ := wf_dirtyDel h hr
      have c := And.intro (wf_missLocked w) ((abs_missLocked w ha).trans ab)
      cases hd : lk s.dl k with
      | none => dsimp only; exact ⟨c.1, (abs_of_miss hr hd).symm, c.2⟩
      | some e =>
        have he := (h.ent_of_dirty hr hd).2
        have hsl : (s.dirtyDel k).missLocked.slot e = s.slot e := slot_missLocked ..
        dsimp only; unfold St.edelete; rw [hsl, abs_of_ent he]
        cases hs : s.slot e with
        | val x =>
          -- the write to `e` commutes with the two steps before it
          obtain ⟨w1, ab1⟩ := wf_dirtyDel (k := k) (wf_setSlot (x := .nil) h (by rw [hs]; nofun) nofun) hr
          rw [h.abs_setSlot he, upd_upd] at ab1
          dsimp only; rw [← missLocked_setSlot]
          exact ⟨wf_missLocked w1, rfl, (abs_missLocked w1 ha).trans ab1⟩
        | nil => dsimp only; exact ⟨c.1, rfl, c.2⟩
        | expunged => dsimp only; exact ⟨c.1, rfl, c.2⟩
    · rw [if_neg ha]
      have hn := abs_of_not_amended hr (eq_false_of_ne_true ha)
      exact ⟨h, hn.symm, (upd_self hn).symm⟩

/-- `tryCompareAndSwap` (`y` the new value) and the loop of `CompareAndDelete` (`y = nil`):
    the entry gets `y` if it holds `old` -/
theorem cmpSet_ent {s : St} (h : WF s) {k : Int} {e : Nat} (he : s.ent k = some e) (old : Int) {y : Slot}
    (hy : y ≠ .expunged) {r : St × Bool}
    (hr : r = match s.slot e with
      | .val x => if x = old then (s.setSlot e y, true) else (s, false)
      | _ => (s, false)) :
    WF r.1 ∧ r.2 = decide (s.abs k = some old) ∧
      r.1.abs = if s.abs k = some old then upd s.abs k y.load else s.abs := by
  rw [abs_of_ent he, hr]
  cases hs : s.slot e with
  | val x =>
    dsimp only
    by_cases hxo : x = old
    · have hso : (Slot.val x).load = some old := congrArg some hxo
      rw [if_pos hxo, if_pos hso]
      exact ⟨wf_setSlot h (hs ▸ nofun) hy, (decide_eq_true hso).symm, h.abs_setSlot he y⟩
    · have hso : ¬ (Slot.val x).load = some old := fun a => hxo (Option.some.inj a)
      rw [if_neg hxo, if_neg hso]; exact ⟨h, (decide_eq_false hso).symm, rfl⟩
  | nil => exact ⟨h, rfl, rfl⟩
  | expunged => exact ⟨h, rfl, rfl⟩

theorem tryCas_ent {s : St} (h : WF s) {k : Int} {e : Nat} (he : s.ent k = some e) (old new : Int) :
    WF (s.tryCas e old new).1 ∧ (s.tryCas e old new).2 = decide (s.abs k = some old) ∧
      (s.tryCas e old new).1.abs = if s.abs k = some old then upd s.abs k (some new) else s.abs :=
  cmpSet_ent h he old (y := .val new) nofun rfl

theorem amended_tryCas (s : St) (e : Nat) (old new : Int) : (s.tryCas e old new).1.amended = s.amended := by
  unfold St.tryCas; split
  · split <;> rfl
  · rfl

theorem cas_refines {s : St} (h : WF s) (k old new : Int) :
    WF (s.cas k old new).1 ∧ (s.cas k old new).2 = decide (s.abs k = some old) ∧
      (s.cas k old new).1.abs = if s.abs k = some old then upd s.abs k (some new) else s.abs := by
  unfold St.cas
  cases hr : lk s.read k with
  | some e => exact tryCas_ent h (ent_of_read hr) old new
  | none =>
    dsimp only
    by_cases ha : s.amended = true
    · rw [if_neg (not_not_intro ha)]
      cases hd : lk s.dl k with
      | some e =>
        obtain ⟨w, r, ab⟩ := tryCas_ent h (h.ent_of_dirty hr hd).2 old new
        dsimp only
        exact ⟨wf_missLocked w, r, (abs_missLocked w ((amended_tryCas s e old new).trans ha)).trans ab⟩
      | none => rw [abs_of_miss hr hd]; exact ⟨h, rfl, rfl⟩
    · rw [if_pos ha, abs_of_not_amended hr (eq_false_of_ne_true ha)]; exact ⟨h, rfl, rfl⟩

theorem cadFin_ent {s : St} (h : WF s) {k : Int} {e : Nat} (he : s.ent k = some e) (old : Int) :
    WF (s.cadFin e old).1 ∧ (s.cadFin e old).2 = decide (s.abs k = some old) ∧
      (s.cadFin e old).1.abs = if s.abs k = some old then upd s.abs k none else s.abs :=
  cmpSet_ent h he old (y := .nil) nofun rfl

theorem cad_refines {s : St} (h : WF s) (k old : Int) :
    WF (s.cad k old).1 ∧ (s.cad k old).2 = decide (s.abs k = some old) ∧
      (s.cad k old).1.abs = if s.abs k = some old then upd s.abs k none else s.abs := by
  unfold St.cad
  cases hr : lk s.read k with
  | some e => exact cadFin_ent h (ent_of_read hr) old
  | none =>
    dsimp only
    by_cases ha : s.amended = true
    · rw [if_pos ha, ← abs_missLocked h ha]
      have he := ent_missLocked ha hr
      cases hd : lk s.dl k with
      | some e => exact cadFin_ent (wf_missLocked h) (he.trans hd) old
      | none => rw [abs_of_ent_none (he.trans hd)]; dsimp only; exact ⟨wf_missLocked h, rfl, rfl⟩
    · rw [if_neg ha, abs_of_not_amended hr (eq_false_of_ne_true ha)]; exact ⟨h, rfl, rfl⟩

theorem rangePromote_refines {s : St} (h : WF s) :
    WF s.rangePromote ∧ s.rangePromote.amended = false ∧ s.rangePromote.abs = s.abs := by
  unfold St.rangePromote
  by_cases ha : s.amended = true
  · rw [if_pos ha]; exact ⟨wf_prom h, rfl, abs_prom h ha⟩
  · rw [if_neg ha]; exact ⟨h, eq_false_of_ne_true ha, rfl⟩

/-- `Range` (hence `Len`, `Keys`, `Values`) visits exactly the pairs of the ordinary map, each key once -/
theorem range_refines {s : St} (h : WF s) :
    WF (s.range).1 ∧ (s.range).1.abs = s.abs ∧
      (∀ k v, (k, v) ∈ (s.range).2 ↔ s.abs k = some v) ∧ ((s.range).2.map Prod.fst).Nodup := by
  obtain ⟨w, na, ab⟩ := rangePromote_refines h
  refine ⟨w, ab, fun k v => ?_, nd_filterMap_keys w.rnd _⟩
  rw [← ab, abs_eq, ent_of_not_amended na]
  exact mem_filterMap_lk w.rnd _ k v

theorem clear_refines {s : St} (h : WF s) : WF s.clear ∧ s.clear.abs = fun _ => none := by
  unfold St.clear
  split
  · rename_i hc
    refine ⟨h, funext fun k => abs_of_not_amended ?_ (eq_false_of_ne_true hc.2)⟩
    rw [List.eq_nil_of_length_eq_zero hc.1]; rfl
  · refine ⟨wf_empty h.nofault rfl ?_ rfl, funext fun k => abs_of_not_amended rfl rfl⟩
    unfold St.dl; cases s.dirty <;> rfl

/-- the ordinary map after a call -/
def specNext (f : Int → Option Int) : Op → (Int → Option Int)
  | .load _ => f
  | .store k v => upd f k (some v)
  | .loadOrStore k v => match f k with | some _ => f | none => upd f k (some v)
  | .loadAndDelete k => upd f k none
  | .delete k => upd f k none
  | .swap k v => upd f k (some v)
  | .cas k o n => if f k = some o then upd f k (some n) else f
  | .cad k o => if f k = some o then upd f k none else f
  | .range => f
  | .clear => fun _ => none

/-- the result an ordinary map `f` gives to a call (for `Range`: the visited pairs are
    exactly the pairs of `f`, each key once; the order is the map's own business) -/
def agrees (f : Int → Option Int) : Op → Res → Prop
  | .load k, .val o => o = f k
  | .store _ _, .unit => True
  | .loadOrStore k v, .pair x l => (x, l) = (match f k with | some y => (y, true) | none => (v, false))
  | .loadAndDelete k, .val o => o = f k
  | .delete _, .unit => True
  | .swap k _, .val o => o = f k
  | .cas k o _, .flag b => b = decide (f k = some o)
  | .cad k o, .flag b => b = decide (f k = some o)
  | .range, .pairs l => (∀ k v, (k, v) ∈ l ↔ f k = some v) ∧ (l.map Prod.fst).Nodup
  | .clear, .unit => True
  | _, _ => False

theorem step_refines {s : St} (h : WF s) (op : Op) :
    WF (s.step op).1 ∧ agrees s.abs op (s.step op).2 ∧ (s.step op).1.abs = specNext s.abs op := by
  cases op with
  | load k => exact load_refines h k
  | store k v => exact ⟨(swap_refines h k v).1, trivial, (swap_refines h k v).2.2⟩
  | loadOrStore k v => exact loadOrStore_refines h k v
  | loadAndDelete k => exact loadAndDelete_refines h k
  | delete k => exact ⟨(loadAndDelete_refines h k).1, trivial, (loadAndDelete_refines h k).2.2⟩
  | swap k v => exact swap_refines h k v
  | cas k o n => exact cas_refines h k o n
  | cad k o => exact cad_refines h k o
  | range => obtain ⟨a, b, c, d⟩ := range_refines h; exact ⟨a, ⟨c, d⟩, b⟩
  | clear => exact ⟨(clear_refines h).1, trivial, (clear_refines h).2⟩

/-- every call of a history got the answer of the ordinary map -/
def Agree : (Int → Option Int) → List (Op × Res) → Prop
  | _, [] => True
  | f, (op, r) :: rest => agrees f op r ∧ Agree (specNext f op) rest

/-- along any sequence of calls from a well-formed state: every call returns what the ordinary map returns, the state
    stays well-formed, and it ends standing for the ordinary map after the same calls -/
theorem trace_refines {s : St} (h : WF s) (ops : List Op) :
    Agree s.abs (s.trace ops) ∧ WF (s.run ops) ∧ (s.run ops).abs = ops.foldl specNext s.abs := by
  induction ops generalizing s with
  | nil => exact ⟨trivial, h, rfl⟩
  | cons op rest ih =>
    obtain ⟨a, b, c⟩ := step_refines h op
    have := ih a
    rw [c] at this
    exact ⟨⟨b, this.1⟩, this.2⟩

/-- **C20, Map, one goroutine at a time**: starting from the zero Map, whatever methods are
    called in whatever order with whatever arguments, every call returns what an ordinary map
    returns, and no call assigns into the nil dirty map (the panic the code could reach). -/
theorem c20_map_sequential (ops : List Op) :
    Agree (fun _ => none) (({} : St).trace ops) ∧ (({} : St).run ops).fault = false :=
  ⟨(trace_refines wf_init ops).1, (trace_refines wf_init ops).2.1.nofault⟩

/-- the internal contract of the code's comments, in every reachable state -/
theorem c20_map_invariant (ops : List Op) : WF (({} : St).run ops) := (trace_refines wf_init ops).2.1

/-- the hypotheses are met by a history that goes through promotion, expunging and unexpunging -/
example :
    let s := ({} : St).run [.store 1 1, .load 1, .store 2 2, .delete 1, .range, .store 3 3, .store 1 5, .load 9]
    s.abs 1 = some 5 ∧ s.abs 2 = some 2 ∧ s.abs 3 = some 3 ∧ s.amended = true ∧ s.fault = false := by
  decide

end EIO.SMap
