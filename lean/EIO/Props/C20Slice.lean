import EIO.Model.Containers
/-
C20 (Slice): every method, executed on Go slices with spare capacity and
in-place appends, behaves as the plain sequence operation it documents; invalid
indices and counts are errors (the model has no panic outcome because no
operation reaches `make` with a negative length or an out-of-range index);
`Push`, `Unshift` and `Splice` leave no storage shared with the slice the caller
passes in (`NewSlice` and `Replace` adopt the caller's slice as it is).
-/
namespace EIO.Cont
open EIO

theorem GS.view_length (g : GS) (h : g.WF) : g.view.length = g.len :=
  List.length_take.trans (Nat.min_eq_left h)

theorem GS.view_eq_nil (g : GS) (h : g.WF) : g.view = [] ↔ g.len = 0 := by
  rw [← List.length_eq_zero_iff, g.view_length h]

theorem GS.append_spec (g : GS) (xs : List Int) (h : g.WF) :
    (g.append xs).view = g.view ++ xs ∧ (g.append xs).WF := by
  have hl : (g.view ++ xs).length = g.len + xs.length := by rw [List.length_append, g.view_length h]
  unfold GS.append
  split
  · refine ⟨List.take_left' hl, ?_⟩
    show g.len + xs.length ≤ (g.view ++ xs ++ _).length
    rw [List.length_append, hl]
    exact Nat.le_add_right _ _
  · exact ⟨List.take_of_length_le (Nat.le_of_eq hl), Nat.le_of_eq hl.symm⟩

theorem GS.upto_spec (g : GS) (h : g.WF) {k : Nat} (hk : k ≤ g.len) :
    (g.upto k).view = g.view.take k ∧ (g.upto k).WF :=
  ⟨by rw [GS.view, GS.view, List.take_take, Nat.min_eq_left hk]; rfl, Nat.le_trans hk h⟩

theorem GS.from_spec (g : GS) (h : g.WF) (a : Nat) : (g.from a).view = g.view.drop a ∧ (g.from a).WF :=
  ⟨List.drop_take.symm, by rw [GS.WF, GS.from, List.length_drop]; exact Nat.sub_le_sub_right h a⟩

theorem GS.getD_arr (g : GS) {i : Nat} (hi : i < g.len) : g.arr.getD i 0 = g.view.getD i 0 := by
  rw [List.getD_eq_getElem?_getD, List.getD_eq_getElem?_getD, GS.view, List.getElem?_take_of_lt hi]

theorem GS.take_drop_arr (g : GS) {a n : Nat} (hn : a + n ≤ g.len) :
    (g.arr.drop a).take n = (g.view.drop a).take n := by
  rw [GS.view, List.drop_take, List.take_take, Nat.min_eq_left (by omega)]

theorem push_refines (g : GS) (xs : List Int) (h : g.WF) :
    (push g xs).1.view = g.view ++ xs ∧ (push g xs).2 = (g.view ++ xs).length ∧ (push g xs).1.WF := by
  obtain ⟨h1, h2⟩ := g.append_spec xs h
  exact ⟨h1, (GS.view_length _ h2).symm.trans (congrArg _ h1), h2⟩

theorem unshift_refines (g : GS) (xs : List Int) (h : g.WF) :
    (unshift g xs).1.view = xs ++ g.view ∧ (unshift g xs).2 = (xs ++ g.view).length ∧
    (unshift g xs).1.WF := by
  have _ := h  -- not needed: the elements are copied into a fresh array
  obtain ⟨a1, a2⟩ := GS.append_spec ⟨List.replicate (xs.length + g.len) 0, 0⟩ xs (Nat.zero_le _)
  obtain ⟨b1, b2⟩ := GS.append_spec _ g.view a2
  have hv : (unshift g xs).1.view = xs ++ g.view := by rw [unshift, b1, a1]; rfl
  exact ⟨hv, (GS.view_length _ b2).symm.trans (congrArg _ hv), b2⟩

/-- `Pop` / `Shift` take the last / first element, or report the empty slice -/
theorem pop_refines (g : GS) (h : g.WF) :
    pop g = (if g.view = [] then (Except.error SErr.empty : Except SErr (Int × GS))
            else .ok (g.view.getD (g.view.length - 1) 0, ⟨g.arr, g.len - 1⟩)) ∧
    (g.len ≠ 0 → (GS.view ⟨g.arr, g.len - 1⟩) = g.view.dropLast) := by
  constructor
  · simp only [pop, g.view_eq_nil h, g.view_length h]
    split
    · rfl
    · rw [g.getD_arr (by omega)]; rfl
  · intro _
    rw [List.dropLast_eq_take, g.view_length h]
    exact (g.upto_spec h (Nat.sub_le _ _)).1

theorem shift_refines (g : GS) (h : g.WF) :
    shift g = (if g.view = [] then (Except.error SErr.empty : Except SErr (Int × GS))
               else .ok (g.view.getD 0 0, g.from 1)) ∧
    (g.len ≠ 0 → (g.from 1).view = g.view.tail ∧ (g.from 1).WF) := by
  constructor
  · simp only [shift, g.view_eq_nil h]
    split
    · rfl
    · rw [g.getD_arr (by omega)]
  · intro _
    rw [← List.drop_one]
    exact g.from_spec h 1

/-- `Get` / `Set`: an index outside `[0, len)` is an error, never a panic -/
theorem get_refines (g : GS) (i : Int) (h : g.WF) :
    get g i = if i < 0 ∨ i ≥ g.view.length then (Except.error SErr.index : Except SErr Int)
              else .ok (g.view.getD i.toNat 0) := by
  rw [get, g.view_length h]
  split
  · rfl
  · rw [g.getD_arr (by omega)]

theorem set_refines (g : GS) (i v : Int) (h : g.WF) :
    set g i v = (if i < 0 ∨ i ≥ g.view.length then (Except.error SErr.index : Except SErr GS)
                 else .ok { g with arr := g.arr.set i.toNat v }) ∧
    (GS.view { g with arr := g.arr.set i.toNat v } = g.view.set i.toNat v ∧
     GS.WF { g with arr := g.arr.set i.toNat v }) :=
  ⟨by rw [set, g.view_length h], List.take_set, by rw [GS.WF, List.length_set]; exact h⟩

/-- `Slice(start, end)` is the sub-sequence, or a range error -/
theorem slice_refines (g : GS) (a b : Int) (h : g.WF) :
    slice g a b = if a < 0 ∨ b > g.view.length ∨ a > b then (Except.error SErr.range : Except SErr (List Int))
                  else .ok ((g.view.drop a.toNat).take (b.toNat - a.toNat)) := by
  rw [slice, g.view_length h]
  split
  · rfl
  · rw [g.take_drop_arr (by omega)]

/-- `Splice`: an invalid start or a negative count is an error, never a panic -/
theorem splice_errors (g : GS) (start del : Int) (ins : List Int) (h : g.WF) :
    ((start < 0 ∨ start > g.view.length) → splice g start del ins = .error .index) ∧
    (¬ (start < 0 ∨ start > g.view.length) → del < 0 → splice g start del ins = .error .range) := by
  rw [splice, g.view_length h]
  exact ⟨fun hb => if_pos hb, fun hs hd => (if_neg hs).trans (if_pos hd)⟩

/-- a count that overshoots the end of the list may be cut off there -/
theorem drop_take_min {α : Type} (l : List α) (a n : Nat) :
    (l.drop a).take (min n (l.length - a)) = (l.drop a).take n ∧
    l.drop (a + min n (l.length - a)) = l.drop (a + n) := by
  constructor
  · rw [← List.length_drop, ← List.take_eq_take_min]
  · by_cases hle : n ≤ l.length - a
    · rw [Nat.min_eq_left hle]
    · have h : l.length - a ≤ n := Nat.le_of_lt (Nat.lt_of_not_le hle)
      rw [List.drop_of_length_le (Nat.sub_le_iff_le_add'.mp (Nat.le_min.mpr ⟨h, Nat.le_refl _⟩)),
        List.drop_of_length_le (Nat.sub_le_iff_le_add'.mp h)]

/-- otherwise the removed elements are returned and the sequence becomes
    `before ++ insert ++ after`, even though the inserted elements overwrite the
    array in place before the tail is appended (the tail is copied first) -/
theorem splice_refines (g : GS) (start del : Int) (ins : List Int) (h : g.WF)
    (hs : ¬ (start < 0 ∨ start > g.view.length)) (hd : ¬ del < 0) :
    ∃ g', splice g start del ins = .ok ((g.view.drop start.toNat).take del.toNat, g') ∧
      g'.view = g.view.take start.toNat ++ ins ++ g.view.drop (start.toNat + del.toNat) ∧ g'.WF := by
  have hv := g.view_length h
  rw [hv] at hs
  obtain ⟨hcut1, hcut2⟩ := drop_take_min g.view start.toNat del.toNat
  rw [hv] at hcut1 hcut2
  have hst : start.toNat ≤ g.len := Int.toNat_le.mpr (Int.not_lt.mp (not_or.mp hs).2)
  obtain ⟨u1, u2⟩ := g.upto_spec h hst
  obtain ⟨a1, a2⟩ := (g.upto start.toNat).append_spec ins u2
  obtain ⟨b1, b2⟩ := ((g.upto start.toNat).append ins).append_spec
    (g.view.drop (start.toNat + min del.toNat (g.len - start.toNat))) a2
  refine ⟨_, ?_, ?_, b2⟩
  · rw [splice, if_neg hs, if_neg hd, ← hcut1,
      ← g.take_drop_arr (Nat.add_le_of_le_sub' hst (Nat.min_le_right _ _))]; rfl
  · rw [b1, a1, u1, hcut2]

/-- spec of `Remove`: drop the first element satisfying the condition -/
def eraseFirst (p : Int → Bool) : List Int → List Int
  | [] => []
  | x :: rest => if p x then rest else x :: eraseFirst p rest

theorem eraseFirst_eq (p : Int → Bool) (l : List Int) : eraseFirst p l = l.eraseP p := by
  induction l with
  | nil => rfl
  | cons x rest ih => rw [eraseFirst, List.eraseP_cons, ih, cond_eq_ite]

theorem findIdx_eq (p : Int → Bool) (l : List Int) (i : Nat) :
    findIdx p l i = (l.findIdx? p).map (· + i) := by
  induction l generalizing i with
  | nil => rfl
  | cons x rest ih =>
    rw [findIdx, List.findIdx?_cons, ih]
    split
    · exact congrArg some (Nat.zero_add i).symm
    · rw [Option.map_map]; exact congrArg (Option.map · _) (funext fun j => Nat.add_right_comm j 1 i).symm

/-- `Remove` deletes exactly the first matching element (the overlapping
    in-place append behaves as the sequence operation) -/
theorem remove_refines (g : GS) (p : Int → Bool) (h : g.WF) :
    (remove g p).view = eraseFirst p g.view ∧ (remove g p).WF := by
  rw [eraseFirst_eq, List.eraseP_eq_eraseIdx, remove, findIdx_eq]
  cases hf : g.view.findIdx? p with
  | none => exact ⟨rfl, h⟩
  | some i =>
    have hlt : i < g.len := g.view_length h ▸ (List.findIdx?_eq_some_iff_findIdx_eq.1 hf).1
    obtain ⟨u1, u2⟩ := g.upto_spec h (Nat.le_of_lt hlt)
    obtain ⟨a1, a2⟩ := (g.upto i).append_spec (g.view.drop (i + 1)) u2
    exact ⟨a1.trans (u1 ▸ (List.eraseIdx_eq_take_drop_succ ..).symm), a2⟩

theorem take_succ_set {α : Type} (l : List α) (x : α) (n : Nat) (h : n < l.length) :
    (l.set n x).take (n + 1) = l.take n ++ [x] := by
  rw [List.take_add_one, List.take_set_of_le (Nat.le_refl n), List.getElem?_set_self h]; rfl

theorem drop_take_cons {α : Type} (l : List α) (d : α) {i n : Nat} (hi : i < n) (hn : n ≤ l.length) :
    (l.take n).drop i = l.getD i d :: (l.take n).drop (i + 1) := by
  have hil : i < (l.take n).length := by rw [List.length_take, Nat.min_eq_left hn]; exact hi
  rw [List.drop_eq_getElem_cons hil, List.getD_eq_getElem?_getD, List.getElem_take,
    List.getElem?_eq_getElem (Nat.lt_of_lt_of_le hi hn)]; rfl

/-- loop invariant of `RemoveAll`'s in-place compaction: what the loop returns from `(i, n, arr)` is
    the `n` elements kept so far, then the kept ones among the unread `arr[i:len]`; the writes
    at `n ≤ i` never reach the unread part -/
theorem removeAllLoop_spec (p : Int → Bool) (len fuel i n : Nat) (arr : List Int) :
    len - i < fuel → i ≤ len → n ≤ i → len ≤ arr.length →
    (removeAllLoop p fuel i n arr len).1.take (removeAllLoop p fuel i n arr len).2 =
        arr.take n ++ ((arr.take len).drop i).filter (fun x => !p x) ∧
      (removeAllLoop p fuel i n arr len).2 ≤ (removeAllLoop p fuel i n arr len).1.length := by
  fun_induction removeAllLoop p fuel i n arr len with
  | case1 => exact fun h => absurd h (Nat.not_lt_zero _)
  | case2 fuel i n arr len hge =>
    intro _ hi hn hlen
    rw [List.drop_of_length_le (Nat.le_trans (List.length_take_le _ _) hge), List.filter_nil, List.append_nil]
    exact ⟨rfl, Nat.le_trans hn (Nat.le_trans hi hlen)⟩
  | case3 fuel i n arr len hge el hp ih =>
    intro hf _ hn hlen
    have hi : i < len := Nat.lt_of_not_le hge
    have := ih (Nat.lt_of_lt_of_le (Nat.sub_succ_lt_self len i hi) (Nat.le_of_lt_succ hf)) hi
      (Nat.succ_le_succ hn) (by rw [List.length_set]; exact hlen)
    rw [take_succ_set arr _ n (Nat.lt_of_le_of_lt hn (Nat.lt_of_lt_of_le hi hlen)), List.take_set,
      List.drop_set_of_lt (Nat.lt_succ_of_le hn), List.append_assoc] at this
    rw [drop_take_cons arr 0 hi hlen, List.filter_cons_of_pos (by simpa [el] using hp)]
    exact this
  | case4 fuel i n arr len hge el hp ih =>
    intro hf _ hn hlen
    have hi : i < len := Nat.lt_of_not_le hge
    rw [drop_take_cons arr 0 hi hlen, List.filter_cons_of_neg (by simpa [el] using hp)]
    exact ih (Nat.lt_of_lt_of_le (Nat.sub_succ_lt_self len i hi) (Nat.le_of_lt_succ hf)) hi
      (Nat.le_succ_of_le hn) hlen

/-- `RemoveAll` keeps exactly the elements that do not satisfy the condition, in order -/
theorem removeAll_refines (g : GS) (p : Int → Bool) (h : g.WF) :
    (removeAll g p).view = g.view.filter (fun x => !p x) ∧ (removeAll g p).WF :=
  removeAllLoop_spec p g.len (g.len + 1) 0 0 g.arr (by omega) (Nat.zero_le _) (Nat.le_refl 0) h

theorem clear_refines (g : GS) (h : g.WF) :
    (clear g).view = [] ∧ (allAndClear g).1 = g.view ∧ (allAndClear g).2.view = [] ∧ (clear g).WF := by
  have _ := h  -- not needed: the empty prefix of any array
  exact ⟨rfl, rfl, rfl, Nat.zero_le _⟩

theorem Hdr.append_not_caller (a : Hdr) (n : Nat) (ha : a.owner ≠ .caller) :
    (a.append n).1.owner ≠ .caller ∧ .caller ∉ (a.append n).2.toList := by
  unfold Hdr.append
  split
  · exact ⟨ha, nofun⟩
  · split
    · exact ⟨ha, fun hm => ha (List.mem_singleton.1 hm).symm⟩
    · exact ⟨nofun, fun hm => nomatch List.mem_singleton.1 hm⟩

/-- **no shared storage**: for `Push`, `Unshift` and `Splice`/`RangeAndSplice`
    called with a caller-owned slice of any length and any spare capacity, on a
    Slice whose array is its own, with any capacity: afterwards the Slice's
    array is its own or a fresh one, and no write went to the caller's array -/
theorem c20_no_shared_storage (s caller : Hdr) (hs : s.owner ≠ .caller) (start d : Nat) :
    (pushOwn s caller).1.owner ≠ .caller ∧ .caller ∉ (pushOwn s caller).2 ∧
    (unshiftOwn s caller).1.owner ≠ .caller ∧ .caller ∉ (unshiftOwn s caller).2 ∧
    (spliceOwn s start d caller).1.owner ≠ .caller ∧ .caller ∉ (spliceOwn s start d caller).2 := by
  have p := s.append_not_caller caller.len hs
  have u1 := Hdr.append_not_caller ⟨.fresh, 0, caller.len + s.len⟩ caller.len nofun
  have u2 := Hdr.append_not_caller _ s.len u1.1
  have s1 := Hdr.append_not_caller { s with len := start } caller.len hs
  have s2 := Hdr.append_not_caller _ (s.len - (start + d)) s1.1
  exact ⟨p.1, p.2, u2.1, fun h => (List.mem_append.mp h).elim u1.2 u2.2,
    s2.1, fun h => (List.mem_append.mp h).elim s1.2 s2.2⟩

/-- non-vacuity: splice on a slice with spare capacity, inserting more than it
    deletes (the in-place overwrite the tail copy protects against) -/
example : (splice ⟨[1, 2, 3, 4, 0, 0, 0], 4⟩ 1 1 [7, 8, 9]).toOption.map (fun r => (r.1, r.2.view)) =
    some ([2], [1, 7, 8, 9, 3, 4]) := by decide +kernel

end EIO.Cont
