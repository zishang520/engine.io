import EIO.Model.Codec
/-
Codec theorems used by C01, C02 and C16: a message packet comes back from the codecs with the kind and bytes the
transport handed in, and a well-formed batch decodes packet by packet to what each packet decodes to alone (a
packet without data comes back with empty text data, so not every packet comes back unchanged).
-/
namespace EIO.Codec
open EIO

/-- the alphabet, by evaluation: 64 characters with different codes, the default of `stdChar` among them, every
    code a byte and none the padding `=` -/
theorem stdAlpha_spec : (stdAlpha.map Char.toNat).Nodup ∧ stdAlpha.length = 64 ∧ 'A' ∈ stdAlpha ∧
    ∀ n ∈ stdAlpha.map Char.toNat, n < 256 ∧ n ≠ 61 := by
  -- the characters of the literal without evaluation: the kernel is slow at decoding its UTF-8
  unfold stdAlpha
  rw [String.toList_ofList]
  decide +kernel

theorem stdChar_spec {i : Nat} (h : i < 64) : stdIndex (stdChar i) = some i ∧ stdChar i ≠ 61 := by
  obtain ⟨hn, hl, hA, hc⟩ := stdAlpha_spec
  obtain ⟨h256, h61⟩ := hc _ (List.mem_map_of_mem (getD_mem hA i))
  -- the character survives the passage through a byte
  have e : (stdChar i).toNat = (stdAlpha.getD i 'A').toNat := (UInt8.toNat_ofNat' ..).trans (Nat.mod_eq_of_lt h256)
  refine ⟨?_, fun h' => h61 (e ▸ congrArg UInt8.toNat h')⟩
  rw [stdIndex, e, Char.ofNat_toNat, idxOf_getD Char.toNat hn (hl ▸ h)]
  exact if_pos h

/- `unb64Std` on a well-formed quantum, padded twice, once, not at all. The characters are variables: with
   `stdChar _` in their place a failing unification of two of them makes Lean evaluate the alphabet. -/
section
variable {w x y z : UInt8} {s0 s1 s2 s3 : Nat}

theorem unb64Std_pad2 (hw : stdIndex w = some s0) (hx : stdIndex x = some s1) :
    unb64Std [w, x, 61, 61] = ([UInt8.ofNat ((s0 * 64 + s1) / 16)], false) := by
  rw [unb64Std, hw, hx]
  rfl

theorem unb64Std_pad1 (hw : stdIndex w = some s0) (hx : stdIndex x = some s1)
    (hy : stdIndex y = some s2 ∧ y ≠ 61) :
    unb64Std [w, x, y, 61] =
      ([UInt8.ofNat ((s0 * 4096 + s1 * 64 + s2) / 1024), UInt8.ofNat ((s0 * 4096 + s1 * 64 + s2) / 4 % 256)],
        false) := by
  rw [unb64Std, hw, hx, hy.1]
  show (if y = 61 ∧ (61 : UInt8) = 61 then _ else _) = _
  rw [if_neg (fun h => hy.2 h.1)]
  rfl

theorem unb64Std_full (hw : stdIndex w = some s0) (hx : stdIndex x = some s1)
    (hy : stdIndex y = some s2 ∧ y ≠ 61) (hz : stdIndex z = some s3 ∧ z ≠ 61) (rest : Bytes) :
    unb64Std (w :: x :: y :: z :: rest) =
      (UInt8.ofNat ((s0 * 262144 + s1 * 4096 + s2 * 64 + s3) / 65536) ::
        UInt8.ofNat ((s0 * 262144 + s1 * 4096 + s2 * 64 + s3) / 256 % 256) ::
        UInt8.ofNat ((s0 * 262144 + s1 * 4096 + s2 * 64 + s3) % 256) :: (unb64Std rest).1, (unb64Std rest).2) := by
  rw [unb64Std]
  simp only [hw, hx, hy, hz, false_and, if_false]

end

/-- decoding inverts encoding, for every byte string (all three padding cases) -/
theorem b64_roundtrip (d : Bytes) : unb64Std (b64Std d) = (d, false) := by
  have hm (k : Nat) := stdChar_spec (Nat.mod_lt k (by decide))
  fun_induction b64Std d with
  | case1 a b c rest n ih =>
    obtain ⟨h0, e1, e2, e3⟩ := group_bytes a.toNat_lt b.toNat_lt c.toNat_lt (Eq.refl n)
    rw [unb64Std_full (stdChar_spec h0).1 (hm _).1 (hm _) (hm _), sextets_join, e1, e2, e3, ih]
    simp only [UInt8.ofNat_toNat]
  | case2 a b n =>
    -- the decoder sees `n / 64`, whose bytes are the first two of the group `a, b, 0`
    obtain ⟨h0, e1, e2, -⟩ := group_bytes (c := 0) a.toNat_lt b.toNat_lt (by decide) (Nat.add_zero n).symm
    rw [unb64Std_pad1 (stdChar_spec h0).1 (hm _).1 (hm _), sextets_join3, Nat.div_div_eq_div_mul,
      Nat.div_div_eq_div_mul, e1, e2]
    simp only [UInt8.ofNat_toNat]
  | case3 a n =>
    obtain ⟨h0, e1, -, -⟩ :=
      group_bytes (b := 0) (c := 0) a.toNat_lt (by decide) (by decide) (Nat.add_zero n).symm
    rw [unb64Std_pad2 (stdChar_spec h0).1 (hm _).1, sextets_join2, Nat.div_div_eq_div_mul, e1,
      UInt8.ofNat_toNat]
  | case4 => rfl

/-- a message packet survives `EncodePacket` / `DecodePacket` on a frame
    transport: same kind, same bytes — text, binary, and binary over a
    connection that asked for base64 -/
theorem v4_packet_roundtrip (m : Msg) (supportsBinary : Bool) :
    decodePacketV4 (encodePacketV4 { typ := .message, data := some m } supportsBinary) =
      ({ typ := .message, data := some m }, true) := by
  obtain ⟨k, d⟩ := m
  cases k
  · simp [encodePacketV4, decodePacketV4, PT.char, PT.ofChar]
  · cases supportsBinary
    · simp [encodePacketV4, decodePacketV4, b64_roundtrip]
    · simp [encodePacketV4, decodePacketV4]

/-- without binary support every packet is encoded as text -/
theorem encodePacketV4_text (p : Pkt) : (⟨.text, (encodePacketV4 p false).data⟩ : Enc) = encodePacketV4 p false := by
  unfold encodePacketV4
  cases p.data with
  | none => rfl
  | some m => obtain ⟨k, d⟩ := m; cases k <;> rfl

theorem encodePacketV4_nonempty (p : Pkt) (b : Bool) :
    (encodePacketV4 p b).kind = .text → (encodePacketV4 p b).data ≠ [] := by
  unfold encodePacketV4
  cases p.data with
  | none => simp
  | some m => obtain ⟨k, d⟩ := m; cases k <;> cases b <;> simp

theorem takeWhile_all {α : Type} {p : α → Bool} {l : List α} (h : ∀ x ∈ l, p x = true) :
    l.takeWhile p = l := by
  have := List.takeWhile_append_of_pos (l₂ := []) h
  rwa [List.append_nil, List.takeWhile_nil, List.append_nil] at this

theorem splitSep_ne_nil (l : Bytes) : splitSep l ≠ [] := by
  fun_cases splitSep l <;> exact List.cons_ne_nil _ _

theorem splitSep_token {x : Bytes} (hx : sep ∉ x) : splitSep x = [x] := by
  induction x with
  | nil => rfl
  | cons b bs ih =>
    rw [splitSep, ih (fun h => hx (List.mem_cons_of_mem _ h))]
    exact if_neg (fun e : b = sep => hx (e ▸ List.mem_cons_self))

theorem splitSep_token_sep {x : Bytes} (hx : sep ∉ x) (tl : Bytes) :
    splitSep (x ++ sep :: tl) = x :: splitSep tl := by
  induction x with
  | nil =>
    rw [List.nil_append, splitSep]
    cases h : splitSep tl with
    | nil => exact absurd h (splitSep_ne_nil tl)
    | cons s ss => exact if_pos rfl
  | cons b bs ih =>
    rw [List.cons_append, splitSep, ih (fun h => hx (List.mem_cons_of_mem _ h))]
    exact if_neg (fun e : b = sep => hx (e ▸ List.mem_cons_self))

theorem splitSep_joinSep (parts : List Bytes) (hne : parts ≠ []) (h : ∀ p ∈ parts, sep ∉ p) :
    splitSep (joinSep parts) = parts := by
  fun_induction joinSep parts with
  | case1 => exact absurd rfl hne
  | case2 x => exact splitSep_token (h x List.mem_cons_self)
  | case3 x rest hrest ih =>
    rw [splitSep_token_sep (h x List.mem_cons_self), ih hrest fun p hp => h p (List.mem_cons_of_mem _ hp)]

theorem joinSep_suffix (parts : List Bytes) (hne : parts ≠ []) :
    ∃ pre, joinSep parts = pre ++ parts.getLast hne := by
  fun_induction joinSep parts with
  | case1 => exact absurd rfl hne
  | case2 x => exact ⟨[], rfl⟩
  | case3 x rest hrest ih =>
    obtain ⟨pre, e⟩ := ih hrest
    exact ⟨x ++ sep :: pre, by rw [e, List.getLast_cons hrest, List.append_assoc, List.cons_append]⟩

/-- the scanner gives back the tokens that were joined, when they are non-empty and free of the separator, up to
    the first one that reaches the limit -/
theorem scanTokens_joinSep (maxTok : Nat) (toks : List Bytes) (hsep : ∀ t ∈ toks, sep ∉ t)
    (hne : ∀ t ∈ toks, t ≠ []) :
    scanTokens maxTok (joinSep toks) = toks.takeWhile fun t => t.length < maxTok := by
  by_cases h : toks = []
  · subst h; rfl
  · obtain ⟨pre, e⟩ := joinSep_suffix toks h
    have hl := List.getLast_mem h
    -- the body is not empty and does not end with a separator: its last token is non-empty and has none
    have hbody : (joinSep toks).isEmpty = false := by
      rw [e, List.isEmpty_eq_false_iff]; exact List.append_ne_nil_of_right_ne_nil _ (hne _ hl)
    have hlast : (joinSep toks).getLast? ≠ some sep := by
      rw [e, List.getLast?_append, List.getLast?_eq_some_getLast (hne _ hl), Option.some_or]
      exact fun hs => hsep _ hl (Option.some.inj hs ▸ List.getLast_mem _)
    unfold scanTokens
    simp only [hbody, Bool.false_eq_true, if_false, hlast, splitSep_joinSep toks h hsep]

/-- well-formedness of a batch for the revision-4 payload format: no packet
    contains the record separator and every encoded packet fits a scanner token
    (the 64 KiB limit is the dependency's: see the known finding for C02) -/
def WFv4 (ps : List Pkt) : Prop :=
  ∀ p ∈ ps, sep ∉ (encodePacketV4 p false).data ∧ (encodePacketV4 p false).data.length < 65536 ∧
    (decodePacketV4 ⟨.text, (encodePacketV4 p false).data⟩).2 = true

theorem decodeGo_all (toks : List Bytes) (h : ∀ t ∈ toks, (decodePacketV4 ⟨.text, t⟩).2 = true) :
    decodePayloadV4.go toks = toks.map fun t => (decodePacketV4 ⟨.text, t⟩).1 := by
  induction toks with
  | nil => rfl
  | cons t rest ih =>
    simp only [decodePayloadV4.go, h t List.mem_cons_self, if_true, List.map_cons]
    rw [ih (fun x hx => h x (List.mem_cons_of_mem _ hx))]

/-- **the revision-4 payload format round-trips every well-formed batch**: what
    `DecodePayload` returns for `EncodePayload ps` is, packet by packet, what
    decoding each encoded packet alone returns -/
theorem v4_payload_roundtrip (ps : List Pkt) (h : WFv4 ps) :
    decodePayloadV4 (encodePayloadV4 ps).data =
      ps.map fun p => (decodePacketV4 ⟨.text, (encodePacketV4 p false).data⟩).1 := by
  unfold decodePayloadV4 encodePayloadV4
  have hshort : ∀ t ∈ ps.map fun p => (encodePacketV4 p false).data, decide (t.length < 65536) = true :=
    List.forall_mem_map.mpr fun p hp => decide_eq_true (h p hp).2.1
  rw [scanTokens_joinSep _ _ (List.forall_mem_map.mpr fun p hp => (h p hp).1)
      (List.forall_mem_map.mpr fun p _ =>
        encodePacketV4_nonempty p false (congrArg Msg.kind (encodePacketV4_text p)).symm),
    takeWhile_all hshort, decodeGo_all _ (List.forall_mem_map.mpr fun p hp => (h p hp).2.2), List.map_map]
  rfl

/-- for message packets the per-packet decoding is the packet itself -/
theorem v4_payload_message (m : Msg) :
    (decodePacketV4 ⟨.text, (encodePacketV4 { typ := .message, data := some m } false).data⟩).1 =
      { typ := .message, data := some m } := by
  rw [encodePacketV4_text, v4_packet_roundtrip]

/-- the scanner limit is real: a separator-free token of `maxTok` bytes or more
    is dropped by the decoder (and everything after it), although the data
    request is acknowledged. With the dependency's constant, 65536 (known
    finding for C02). -/
theorem v4_token_limit (maxTok : Nat) (tok : Bytes) (hlen : maxTok ≤ tok.length) (hs : sep ∉ tok)
    (hne : tok ≠ []) : scanTokens maxTok tok = [] :=
  (scanTokens_joinSep maxTok [tok] (List.forall_mem_singleton.mpr hs) (List.forall_mem_singleton.mpr hne)).trans
    (List.takeWhile_cons_of_neg (by simpa using hlen))

end EIO.Codec
