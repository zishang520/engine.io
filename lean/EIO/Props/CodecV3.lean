import EIO.Props.Codec
import EIO.Lemmas.World
import EIO.Model.Session
/-
Revision 3 on frame transports (WebSocket): a packet survives `EncodePacket` / `DecodePacket` — same type, same
kind, same bytes — as text, as binary, and as binary over a connection that asked for base64. (The revision-3
*payload* format of the polling transport counts UTF-16 units and re-encodes text; its round trip is compared
with the implementation, not proved, and fails for binary payloads with non-ASCII text: known finding.)
-/
namespace EIO.Codec
open EIO

/-- the type byte, by evaluation: `ofChar` reads back every type that has a byte of its own, and none is the `b`
    that announces base64 -/
theorem PT.ofChar_char (t : PT) : t ≠ .error → PT.ofChar t.char = some t ∧ t.char ≠ 98 := by
  cases t <;> decide +kernel

/-- every packet that has a type byte comes back with its type and its data, no data as empty text -/
theorem v3_packet_decode_encode (p : Pkt) (supportsBinary : Bool) (ht : p.typ ≠ .error) :
    decodePacketV3 (encodePacketV3 p supportsBinary false) =
      ({ typ := p.typ, data := some (p.data.getD ⟨.text, []⟩) }, true) := by
  obtain ⟨t, data, c, pre⟩ := p
  obtain ⟨h1, h2⟩ := PT.ofChar_char t ht
  cases data with
  | none => simp [encodePacketV3, decodePacketV3, h1, h2]
  | some m =>
    obtain ⟨k, d⟩ := m
    cases k
    · simp [encodePacketV3, decodePacketV3, h1, h2]
    · cases supportsBinary
      · simp [encodePacketV3, decodePacketV3, h1, b64_roundtrip]
      · simp [encodePacketV3, decodePacketV3, h1]

theorem v3_packet_roundtrip (m : Msg) (supportsBinary : Bool) :
    decodePacketV3 (encodePacketV3 { typ := .message, data := some m } supportsBinary false) =
      ({ typ := .message, data := some m }, true) :=
  v3_packet_decode_encode _ _ nofun

/-- the packet types without data (ping, pong, upgrade, noop, close) -/
theorem v3_bare_packet_roundtrip (t : PT) (supportsBinary : Bool) (ht : t ≠ .error) :
    decodePacketV3 (encodePacketV3 { typ := t, data := none } supportsBinary false) =
      ({ typ := t, data := some ⟨.text, []⟩ }, true) :=
  v3_packet_decode_encode _ _ ht

end EIO.Codec

namespace EIO.Ses
open EIO EIO.Codec

/-- C02, revision 3 on a frame transport: the message a client framed reaches the application of an open session
    as one packet and one message event, kind and bytes intact (with or without base64) -/
theorem c02_frame_delivered_v3 (w : World) (ti sid : Nat) (m : Msg) (b64 : Bool)
    (hr : (w.tr ti).role = .current sid) (ho : (w.sock sid).rs = .open_) :
    (trEmitPacket w ti (decodePacketV3 (encodePacketV3 { typ := .message, data := some m } b64 false)).1).slog =
      w.slog ++ [(sid, .packet .message), (sid, .message (some m))] := by
  rw [v3_packet_roundtrip]
  unfold trEmitPacket; simp only [hr]
  unfold sockOnPacket
  simp [ho]

end EIO.Ses
