import EIO.Model.Ids
/-
Session ids (C04: unique within a process, never reused, URL-safe). The yeast
helper of the same model file is in Props/Yeast.lean.
-/
namespace EIO.Ids
open EIO

/-- the alphabet, by evaluation: 64 characters with different codes, the default of `b64Char` among them -/
theorem b64Alpha_spec : (b64Alpha.map Char.toNat).Nodup ∧ b64Alpha.length = 64 ∧ 'A' ∈ b64Alpha := by
  -- the characters of the literal without evaluation: the kernel is slow at decoding its UTF-8
  unfold b64Alpha
  rw [String.toList_ofList]
  decide +kernel

theorem b64Index_b64Char {i : Nat} (h : i < 64) : b64Index (b64Char i) = i :=
  idxOf_getD Char.toNat b64Alpha_spec.1 (b64Alpha_spec.2.1 ▸ h) _

theorem b64Char_mem (i : Nat) : b64Char i ∈ b64Alpha := getD_mem b64Alpha_spec.2.2 i

theorem dec4_enc3 (a b c : UInt8) (rest : List Char) :
    b64DecodeFull (enc3 a b c ++ rest) = a :: b :: c :: b64DecodeFull rest := by
  obtain ⟨h0, e1, e2, e3⟩ := group_bytes a.toNat_lt b.toNat_lt c.toNat_lt rfl
  have hm (k : Nat) := b64Index_b64Char (Nat.mod_lt k (by decide))
  simp only [enc3, List.cons_append, List.nil_append, b64DecodeFull, dec4]
  rw [b64Index_b64Char h0, hm, hm, hm, sextets_join, e1, e2, e3]
  simp only [UInt8.ofNat_toNat]

/-- decoding inverts encoding on whole groups -/
theorem b64_decode_encode (bs : Bytes) (h : bs.length % 3 = 0) : b64DecodeFull (b64Encode bs) = bs := by
  fun_induction b64Encode bs with
  | case1 a b c rest ih => rw [dec4_enc3, ih ((Nat.add_mod_right _ 3).symm.trans h)]
  | case2 a b => simp at h
  | case3 a => simp at h
  | case4 => rfl

theorem b64_roundtrip : ∀ (n : Nat) (bs : Bytes), bs.length = 3 * n →
    b64DecodeFull (b64Encode bs) = bs :=
  fun n bs h => b64_decode_encode bs (by rw [h, Nat.mul_mod_right])

/-- `RawURLEncoding.EncodedLen` -/
theorem b64Encode_length (bs : Bytes) : (b64Encode bs).length = (4 * bs.length + 2) / 3 := by
  fun_induction b64Encode bs with
  | case1 a b c rest ih =>
    show (enc3 a b c ++ b64Encode rest).length = (4 * (rest.length + 3) + 2) / 3
    rw [List.length_append, ih, Nat.mul_add, Nat.add_right_comm, Nat.add_mul_div_right _ _ (by decide), Nat.add_comm]
    rfl
  | case2 a b => simp
  | case3 a => simp
  | case4 => rfl

/-- every character of an encoding is in A–Z a–z 0–9 - _ -/
theorem b64_urlsafe (bs : Bytes) : ∀ ch ∈ b64Encode bs, ch ∈ b64Alpha := by
  fun_induction b64Encode bs with
  | case1 a b c rest ih =>
    exact List.forall_mem_append.mpr ⟨by simp [enc3, b64Char_mem], ih⟩
  | case2 a b n => simp [b64Char_mem]
  | case3 a n => simp [b64Char_mem]
  | case4 => simp

/-- **C04: ids are URL-safe**, whatever the random bytes and the sequence number -/
theorem c04_ids_urlsafe (r : Bytes) (seq : Nat) : ∀ ch ∈ generateId r seq, ch ∈ b64Alpha :=
  b64_urlsafe _

theorem generateId_decode (r : Bytes) (seq : Nat) (hr : r.length = 10) :
    b64DecodeFull (generateId r seq) = r ++ be 8 seq :=
  b64_decode_encode _ (by rw [List.length_append, be_length, hr])

/-- **C04: ids are unique and never reused**: two ids are equal only if their
    sequence numbers agree modulo 2^64, whatever the random parts; the counter
    increases by one per id, so a process would have to issue 2^64 ids first -/
theorem c04_ids_distinct (r r' : Bytes) (seq seq' : Nat) (hr : r.length = 10) (hr' : r'.length = 10)
    (h : generateId r seq = generateId r' seq') : seq % 2 ^ 64 = seq' % 2 ^ 64 := by
  have heq := congrArg b64DecodeFull h
  rw [generateId_decode r seq hr, generateId_decode r' seq' hr'] at heq
  have hu := congrArg unbe (List.append_inj heq (hr.trans hr'.symm)).2
  rwa [unbe_be, unbe_be] at hu

theorem c04_ids_never_reused (r r' : Bytes) (k k' : Nat) (hr : r.length = 10) (hr' : r'.length = 10)
    (hk : k < 2 ^ 64) (hk' : k' < 2 ^ 64) (hne : k ≠ k') : generateId r k ≠ generateId r' k' := by
  intro h
  have := c04_ids_distinct r r' k k' hr hr' h
  rw [Nat.mod_eq_of_lt hk, Nat.mod_eq_of_lt hk'] at this
  exact hne this

theorem c04_id_length (r : Bytes) (seq : Nat) (hr : r.length = 10) : (generateId r seq).length = 24 := by
  rw [generateId, b64Encode_length, List.length_append, be_length, hr]

/-- non-vacuity -/
example : String.ofList (generateId [0, 1, 2, 3, 4, 5, 6, 7, 8, 9] 258) = "AAECAwQFBgcICQAAAAAAAAEC" := by
  decide +kernel

end EIO.Ids
