import EIO.Model.Codec
/-
C02 (JSONP form bodies): what a JSONP client escapes, the server un-escapes.
Full strength fails on the current tree and in the protocol as deployed: a
backslash immediately before a newline cannot be told from an escaped
newline (counterexample below, replayed on the implementation by the
`ses-resp` family; recorded as a known finding). Proved for every payload
without a backslash.
-/
namespace EIO.Codec
open EIO

theorem unescape1_cons_ne (b : UInt8) (rest : Bytes) (h : b ≠ 92) :
    jsonpUnescape1 (b :: rest) = b :: jsonpUnescape1 rest := by
  rw [jsonpUnescape1] <;> (intros; simp_all)

theorem unescape2_cons_ne (b : UInt8) (rest : Bytes) (h : b ≠ 92) :
    jsonpUnescape2 (b :: rest) = b :: jsonpUnescape2 rest := by
  rw [jsonpUnescape2] <;> (intros; simp_all)

theorem clientEscape_cons_other (b : UInt8) (rest : Bytes) (h92 : b ≠ 92) (h10 : b ≠ 10) :
    jsonpClientEscape (b :: rest) = b :: jsonpClientEscape rest := by
  rw [jsonpClientEscape] <;> (intros; simp_all)

theorem clientEscape_cons_nl (rest : Bytes) :
    jsonpClientEscape (10 :: rest) = 92 :: 110 :: jsonpClientEscape rest := by
  rw [jsonpClientEscape]

theorem unescape1_esc_nl (rest : Bytes) :
    jsonpUnescape1 (92 :: 110 :: rest) = 10 :: jsonpUnescape1 rest := by
  rw [jsonpUnescape1]

theorem unescape1_clientEscape (s : Bytes) (h : 92 ∉ s) : jsonpUnescape1 (jsonpClientEscape s) = s := by
  induction s with
  | nil => simp [jsonpClientEscape, jsonpUnescape1]
  | cons b rest ih =>
    have hb : b ≠ 92 := (List.ne_of_not_mem_cons h).symm
    have hr := List.not_mem_of_not_mem_cons h
    by_cases h10 : b = 10
    · subst h10
      rw [clientEscape_cons_nl, unescape1_esc_nl, ih hr]
    · rw [clientEscape_cons_other b rest hb h10, unescape1_cons_ne b _ hb, ih hr]

theorem unescape2_id (s : Bytes) (h : 92 ∉ s) : jsonpUnescape2 s = s := by
  induction s with
  | nil => simp [jsonpUnescape2]
  | cons b rest ih =>
    have hb : b ≠ 92 := (List.ne_of_not_mem_cons h).symm
    have hr := List.not_mem_of_not_mem_cons h
    rw [unescape2_cons_ne b rest hb, ih hr]

/-- **C02 (JSONP), partial**: every payload without a backslash — newlines,
    quotes, any UTF-8 — comes out of the form field exactly as submitted -/
theorem c02_jsonp_unescape_partial (s : Bytes) (h : 92 ∉ s) :
    jsonpUnescape (jsonpClientEscape s) = s := by
  unfold jsonpUnescape
  rw [unescape1_clientEscape s h, unescape2_id s h]

/-- escaped newlines written by the application (`\\n`, two characters) do survive -/
example : jsonpUnescape (jsonpClientEscape [97, 92, 110, 98, 10, 99]) = [97, 92, 110, 98, 10, 99] := by decide

/-- **counterexample to the full statement** (the code as it is, and the
    deployed protocol): a backslash directly before a newline comes back as
    backslash + 'n' -/
theorem c02_jsonp_backslash_newline_counterexample :
    jsonpUnescape (jsonpClientEscape [92, 10]) = [92, 110] := by decide

end EIO.Codec
