import EIO.Lemmas.Reach
/-
Whole-history theorems of the session model: they hold after every sequence of
operations (`run o ops`), for every configuration `o`, with no bound on the
number of operations, sessions, requests or connections.
-/
namespace EIO.Ses
open EIO EIO.Codec

/-! ### C03 -/

/-- forward only: no operation ever moves a session's ready state backwards -/
theorem c03_state_forward (o : Opts) (ops ops' : List Op) (sid : Nat) :
    ((run o ops).sock sid).rs.rank ≤ ((run o (ops ++ ops')).sock sid).rs.rank :=
  (run_ext o ops ops').rank sid

/-- a session is closed exactly when its close event has been emitted -/
theorem c03_closed_iff_close_event (o : Opts) (ops : List Op) (sid : Nat) :
    ((run o ops).sock sid).rs = .closed ↔ closeIn sid (run o ops).slog :=
  ⟨(reach_inv o ops).closedLog sid, (reach_inv o ops).logClosed sid⟩

/-- silence after the close event: in the log of every reachable world, no message, packet,
    heartbeat, upgrade, flush, drain, packetCreate, callback or second close entry of a session
    follows that session's close entry -/
theorem c03_close_is_final (o : Opts) (ops : List Op) (pre : List (Nat × SEv)) (e : Nat × SEv)
    (post : List (Nat × SEv)) (h : (run o ops).slog = pre ++ e :: post) (hf : e.2.final = true) :
    ¬ closeIn e.1 pre :=
  (reach_inv o ops).logOK pre e post h hf

/-- at most one close event per session -/
theorem logOK_one_close (sid : Nat) : ∀ (l : List (Nat × SEv)), LogOK l →
    (l.filter fun e => e.1 == sid && e.2.isClose).length ≤ 1 := by
  intro l
  induction l using snoc_induction with
  | nil => intro _; exact Nat.zero_le _
  | snoc l x ih =>
    intro h
    rw [List.filter_append, List.length_append]
    by_cases hx : (x.1 == sid && x.2.isClose) = true
    · -- `x` is a close event of `sid`: there is none before it
      have hx' : x.1 = sid ∧ x.2.isClose = true := by simpa using hx
      have hfin : x.2.final = true := by cases hx2 : x.2 <;> first | rfl | (rw [hx2] at hx'; cases hx'.2)
      have : l.filter (fun e => e.1 == sid && e.2.isClose) = [] :=
        List.filter_eq_nil_iff.mpr fun e he hc => h l x [] rfl hfin ⟨e, he, by simpa [hx'.1] using hc⟩
      rw [this]; simp [List.filter, hx]
    · simpa [List.filter, hx] using ih (logOK_prefix l [x] h)

theorem c03_at_most_one_close (o : Opts) (ops : List Op) (sid : Nat) :
    ((run o ops).slog.filter fun e => e.1 == sid && e.2.isClose).length ≤ 1 :=
  logOK_one_close sid _ (reach_inv o ops).logOK

/-- whatever happens after a session closed, nothing of that session is logged any more -/
theorem c03_silence_after_close (o : Opts) (ops ops' : List Op) (sid : Nat)
    (hc : ((run o ops).sock sid).rs = .closed) (added : List (Nat × SEv))
    (hadd : (run o (ops ++ ops')).slog = (run o ops).slog ++ added) :
    ∀ x ∈ added, x.2.final = true → x.1 ≠ sid :=
  (reach_inv o ops).silent_after_close (reach_inv o (ops ++ ops')) sid hc added hadd

/-- the log only grows -/
theorem c03_log_grows (o : Opts) (ops ops' : List Op) :
    ∃ added, (run o (ops ++ ops')).slog = (run o ops).slog ++ added := (run_ext o ops ops').log

/-! ### C04 -/

/-- the client table is exactly the set of sessions that were announced and have not closed -/
theorem c04_registry_is_live_sessions (o : Opts) (ops : List Op) (sid : Nat) :
    sid ∈ (run o ops).registry ↔ ((run o ops).sock sid).announced = true ∧ ((run o ops).sock sid).rs ≠ .closed := by
  have i := reach_inv o ops
  constructor
  · intro h
    obtain ⟨a, _, c⟩ := i.regLive sid h
    exact ⟨c, a⟩
  · rintro ⟨a, b⟩
    rcases i.annReg sid a with r | r
    · exact r
    · exact absurd r b

/-- no session is counted twice: the count is the number of live sessions -/
theorem c04_registry_nodup (o : Opts) (ops : List Op) : (run o ops).registry.Nodup := (reach_inv o ops).regNodup

/-- a request naming a closed session is answered "Session ID unknown" -/
theorem c04_closed_session_unknown (o : Opts) (ops : List Op) (sid : Nat)
    (hc : ((run o ops).sock sid).rs = .closed) : lookup (run o ops) sid = none := by
  unfold lookup
  have : sid ∉ (run o ops).registry := fun h => ((reach_inv o ops).regLive sid h).1 hc
  simp [this]

/-- a session enters the table only when it is created: an announced session never re-enters -/
theorem c04_no_reentry (o : Opts) (ops ops' : List Op) (sid : Nat)
    (ha : ((run o ops).sock sid).announced = true) (hn : sid ∉ (run o ops).registry) :
    sid ∉ (run o (ops ++ ops')).registry := by
  intro h
  rcases (run_ext o ops ops').reg sid h with r | r
  · exact hn r
  · rw [ha] at r; cases r

/-- sessions are never renumbered or reused: the table of sessions only grows and a session keeps its revision -/
theorem c04_sessions_persist (o : Opts) (ops ops' : List Op) :
    (run o ops).socks.size ≤ (run o (ops ++ ops')).socks.size ∧
    ∀ sid, sid < (run o ops).socks.size → ((run o (ops ++ ops')).sock sid).proto = ((run o ops).sock sid).proto :=
  ⟨(run_ext o ops ops').size, (run_ext o ops ops').proto⟩

/-! ### C11 -/

/-- a response, once written, is never replaced or written again -/
theorem c11_response_write_once (o : Opts) (ops ops' : List Op) (r : Nat) (x : Resp)
    (h : ((run o ops).reqs.getD r default).resp = some x) :
    ((run o (ops ++ ops')).reqs.getD r default).resp = some x :=
  (run_ext o ops ops').reqs.2 r x h

/-! ### C01 / C18: the accounts of the write path

`createdPkts sid l` are the packets `sendPacket` accepted for session `sid` (its packetCreate entries),
`flushedPkts sid l` the packets `flush` handed to a transport (the batches of its flush entries, concatenated),
`createdCbs` / `flushedCbs` / `ranCbs` the send callbacks accepted, handed over with a batch, and run.
A prefix `pre` of the log is the log as it stood at some earlier moment. -/

/-- at every moment of every history, what has been handed to a transport is a prefix of what was accepted:
    packets are flushed in the order of their sends, each at most once, never before its packetCreate event -/
theorem c01_flushed_is_prefix_of_accepted (o : Opts) (ops : List Op) (sid : Nat) (pre : List (Nat × SEv))
    (hp : pre <+: (run o ops).slog) : flushedPkts sid pre <+: createdPkts sid pre :=
  ((reach_inv o ops).acc.hist pre hp sid).1

/-- nothing accepted is lost while the session lives: accepted = handed over ++ still buffered -/
theorem c01_accepted_is_flushed_or_buffered (o : Opts) (ops : List Op) (sid : Nat)
    (hn : ((run o ops).sock sid).rs ≠ .closed) :
    createdPkts sid (run o ops).slog = flushedPkts sid (run o ops).slog ++ ((run o ops).sock sid).wbuf := by
  obtain ⟨rest, e, i⟩ := ((reach_inv o ops).acc.ses sid).pk
  rw [e, i hn]

/-- a flush hands over everything accepted so far, packets and callbacks: right after a flush entry both
    queues are empty, so the flush event carries exactly the packets accepted since the previous flush -/
theorem c18_flush_carries_everything_buffered (o : Opts) (ops : List Op) (pre : List (Nat × SEv)) (sid : Nat)
    (b : List Pkt) (c : List Nat) (hp : pre ++ [(sid, SEv.flush b c)] <+: (run o ops).slog) :
    createdPkts sid (pre ++ [(sid, SEv.flush b c)]) = flushedPkts sid (pre ++ [(sid, SEv.flush b c)]) ∧
    createdCbs sid (pre ++ [(sid, SEv.flush b c)]) = flushedCbs sid (pre ++ [(sid, SEv.flush b c)]) :=
  (reach_inv o ops).acc.tight pre sid b c hp

/-- at every moment of every history: the callbacks that have run are a prefix of the callbacks whose batch
    has been flushed, which are a prefix of the callbacks handed to Send — callbacks run in the order of their
    sends, each at most once, and never before the flush event of the batch that contains their packet -/
theorem c18_callbacks_in_order_after_their_flush (o : Opts) (ops : List Op) (sid : Nat) (pre : List (Nat × SEv))
    (hp : pre <+: (run o ops).slog) :
    ranCbs sid pre <+: flushedCbs sid pre ∧ flushedCbs sid pre <+: createdCbs sid pre :=
  ⟨((reach_inv o ops).acc.hist pre hp sid).2.2.1, ((reach_inv o ops).acc.hist pre hp sid).2.1⟩

/-- while the session lives, the callbacks of flushed batches that have not run yet are exactly the queued groups -/
theorem c18_pending_callbacks_are_queued (o : Opts) (ops : List Op) (sid : Nat)
    (hn : ((run o ops).sock sid).rs ≠ .closed) :
    flushedCbs sid (run o ops).slog = ranCbs sid (run o ops).slog ++ ((run o ops).sock sid).sentCb.flatten := by
  obtain ⟨rest, e, i⟩ := ((reach_inv o ops).acc.ses sid).run
  rw [e, i hn]

/-- callbacks of a session that closes first are dropped: nothing of the session is logged after its close
    entry (`c03_close_is_final`), callbacks included -/
theorem c18_no_callback_after_close (o : Opts) (ops : List Op) (pre : List (Nat × SEv)) (sid id : Nat)
    (post : List (Nat × SEv)) (h : (run o ops).slog = pre ++ (sid, SEv.cb id) :: post) : ¬ closeIn sid pre :=
  (reach_inv o ops).logOK pre (sid, SEv.cb id) post h rfl

/-! ### C08: the switch happens at most once -/

/-- at every moment of every history a session has at most one `upgrade` entry -/
theorem c08_at_most_one_upgrade (o : Opts) (ops : List Op) (sid : Nat) (pre : List (Nat × SEv))
    (hp : pre <+: (run o ops).slog) : upgradeCount sid pre ≤ 1 :=
  ((reach_inv o ops).acc.hist pre hp sid).2.2.2

/-- the `upgraded` flag says exactly whether the `upgrade` entry has been logged -/
theorem c08_upgraded_iff_upgrade_event (o : Opts) (ops : List Op) (sid : Nat) :
    upgradeCount sid (run o ops).slog = (if ((run o ops).sock sid).upgraded then 1 else 0) :=
  ((reach_inv o ops).acc.ses sid).up

/-- a session that entertains a candidate has not been upgraded -/
theorem c08_candidate_only_before_upgrade (o : Opts) (ops : List Op) (sid : Nat)
    (h : ((run o ops).sock sid).cand.isSome) : ((run o ops).sock sid).upgraded = false :=
  ((reach_inv o ops).sockOK sid).cu h

/-! ### non-vacuity: a concrete history that meets the hypotheses -/

/-- handshake, application close with discard: the session is closed, the log ends with its one close event -/
example :
    let w := run {} [.hsPolling 4 false none, .settle, .close 0 true, .settle]
    (w.sock 0).rs = .closed ∧ w.registry = [] ∧
    (w.slog.filter fun e => e.1 == 0 && e.2.isClose).length = 1 := by decide +kernel

/-- two sends (one with a callback) while no poll is pending, a poll, then the upgrade of the session:
    two packetCreate entries, one flush carrying both, the callback run once, one upgrade entry -/
example :
    let w := run {} [.hsPolling 4 false none, .settle, .send 0 ⟨.text, [104]⟩ false true none,
      .send 0 ⟨.binary, [1, 2]⟩ false false none, .poll 0 [], .settle, .wsCandidate 0 4 false,
      .frame 0 ⟨.text, [50, 112, 114, 111, 98, 101]⟩, .frame 0 ⟨.text, [53]⟩, .settle]
    (createdPkts 0 w.slog).length = 3 ∧ flushedPkts 0 w.slog = createdPkts 0 w.slog ∧
    createdCbs 0 w.slog = [1] ∧ ranCbs 0 w.slog = [1] ∧ upgradeCount 0 w.slog = 1 ∧ (w.sock 0).upgraded = true := by
  decide +kernel

end EIO.Ses
