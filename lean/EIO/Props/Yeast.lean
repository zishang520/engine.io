import EIO.Model.Ids
/-
C20 (yeast): Encode/Decode round-trip, and `Yeast()` never returns the same
value twice for any number of calls on a clock that does not run backwards
(the call is one atomic step: the implementation holds a mutex).
-/
namespace EIO.Ids
open EIO

/-- the alphabet, by evaluation: 64 characters with different codes, the default of `yChar` among them, the dot not -/
theorem yeastAlpha_spec :
    (yeastAlpha.map Char.toNat).Nodup ∧ yeastAlpha.length = 64 ∧ '0' ∈ yeastAlpha ∧ '.' ∉ yeastAlpha := by
  -- the characters of the literal without evaluation: the kernel is slow at decoding its UTF-8
  unfold yeastAlpha
  rw [String.toList_ofList]
  decide +kernel

theorem yIndex_yChar {i : Nat} (h : i < 64) : yIndex (yChar i) = i :=
  idxOf_getD Char.toNat yeastAlpha_spec.1 (yeastAlpha_spec.2.1 ▸ h) _

theorem yChar_mem (i : Nat) : yChar i ∈ yeastAlpha := getD_mem yeastAlpha_spec.2.2.1 i

theorem yDecode_append_single (s : List Char) (c : Char) : yDecode (s ++ [c]) = yDecode s * 64 + yIndex c := by
  -- by rewriting alone: after `simp` or `rfl` the kernel evaluates `yIndex c` as far as it goes, alphabet included
  unfold yDecode
  rw [List.foldl_append, List.foldl_cons, List.foldl_nil]

/-- decoding what the loop returns goes on from `n` over `acc`: each round moves the last digit of `n` to the
    front of `acc` -/
theorem yEncodeLoop_decode (fuel n : Nat) (acc : List Char) (h : n < fuel) :
    yDecode (yEncodeLoop fuel n acc) = acc.foldl (fun a c => a * 64 + yIndex c) n := by
  fun_induction yEncodeLoop fuel n acc with
  | case1 => exact absurd h (Nat.not_lt_zero _)
  | case2 => rfl
  | case3 fuel n acc hn ih =>
    have hlt : n / 64 < n := Nat.div_lt_self (Nat.pos_of_ne_zero hn) (by decide)
    rw [ih (Nat.lt_of_lt_of_le hlt (Nat.le_of_lt_succ h)), List.foldl_cons,
      yIndex_yChar (Nat.mod_lt n (by decide)), Nat.div_add_mod']

/-- **Decode inverts Encode** for every non-negative number -/
theorem c20_yeast_decode_encode (n : Nat) : yDecode (yEncode n) = n := by
  unfold yEncode
  split
  · next hn => rw [hn, ← List.nil_append [yChar 0], yDecode_append_single, yIndex_yChar (by decide)]; rfl
  · exact yEncodeLoop_decode (n + 1) n [] (Nat.lt_succ_self n)

theorem yEncode_injective {a b : Nat} (h : yEncode a = yEncode b) : a = b := by
  have := congrArg yDecode h
  rwa [c20_yeast_decode_encode, c20_yeast_decode_encode] at this

theorem yEncodeLoop_alpha (fuel n : Nat) (acc : List Char) (h : ∀ c ∈ acc, c ∈ yeastAlpha) :
    ∀ c ∈ yEncodeLoop fuel n acc, c ∈ yeastAlpha := by
  fun_induction yEncodeLoop fuel n acc with
  | case1 => exact h
  | case2 => exact h
  | case3 fuel n acc hn ih => exact ih (List.forall_mem_cons.mpr ⟨yChar_mem _, h⟩)

theorem yEncode_alpha (n : Nat) : ∀ c ∈ yEncode n, c ∈ yeastAlpha := by
  unfold yEncode
  split
  · exact List.forall_mem_singleton.mpr (yChar_mem 0)
  · exact yEncodeLoop_alpha _ _ _ fun _ h => nomatch h

theorem yEncode_no_dot (n : Nat) : '.' ∉ yEncode n :=
  fun h => yeastAlpha_spec.2.2.2 (yEncode_alpha n '.' h)

theorem split_at_sep {α : Type} [BEq α] [LawfulBEq α] {x : α} {a a' b b' : List α} (ha : x ∉ a) (ha' : x ∉ a')
    (h : a ++ x :: b = a' ++ x :: b') : a = a' ∧ b = b' := by
  -- `x` is found at the same position on both sides
  have hl := congrArg (List.idxOf x) h
  rw [List.idxOf_append, if_neg ha, List.idxOf_append, if_neg ha', List.idxOf_cons_self, List.idxOf_cons_self,
    Nat.zero_add, Nat.zero_add] at hl
  obtain ⟨e1, e2⟩ := List.append_inj h hl
  exact ⟨e1, (List.cons.inj e2).2⟩

/-- two results render to the same string only if they are the same result -/
theorem render_injective (o o' : YOut) (h : o.render = o'.render) : o = o' := by
  obtain ⟨m, s⟩ := o
  obtain ⟨m', s'⟩ := o'
  have dot (a b : Nat) : '.' ∈ yEncode a ++ '.' :: yEncode b := List.mem_append_right _ List.mem_cons_self
  cases s <;> cases s' <;> simp only [YOut.render] at h
  · rw [yEncode_injective h]
  · exact absurd (h ▸ dot m' _) (yEncode_no_dot m)
  · exact absurd (h ▸ dot m _) (yEncode_no_dot m')
  · obtain ⟨h1, h2⟩ := split_at_sep (yEncode_no_dot m) (yEncode_no_dot m') h
    rw [yEncode_injective h1, yEncode_injective h2]

/-- all results of successive calls at the given clock readings -/
def yeastRun : YState → List Nat → List YOut
  | _, [] => []
  | s, ms :: rest => (yeastNext s ms).2 :: yeastRun (yeastNext s ms).1 rest

/-- order of results: by millisecond, then bare before `.0` before `.1` … -/
def YOut.rank (o : YOut) : Nat := match o.seed with | none => 0 | some k => k + 1
def YOut.lt (a b : YOut) : Prop := a.ms < b.ms ∨ (a.ms = b.ms ∧ a.rank < b.rank)

theorem YOut.lt_trans {a b c : YOut} (h1 : a.lt b) (h2 : b.lt c) : a.lt c := by
  unfold YOut.lt at *
  omega

theorem YOut.lt_ne {a b : YOut} (h : a.lt b) : a ≠ b := by
  intro e; subst e; unfold YOut.lt at h; omega

/-- one call: the new state remembers the result, `prev` its millisecond and `seed` its rank -/
theorem yeastNext_remembers (s : YState) (m : Nat) :
    (yeastNext s m).2.ms = m ∧ (yeastNext s m).1.prev = some m ∧
      (yeastNext s m).1.seed = (yeastNext s m).2.rank := by
  unfold yeastNext
  split
  · exact ⟨rfl, rfl, rfl⟩
  · next h => exact ⟨rfl, Classical.not_not.mp h, rfl⟩

theorem yeastNext_lt {s : YState} {a : YOut} (hp : s.prev = some a.ms) (hr : s.seed = a.rank) {m : Nat}
    (hm : a.ms ≤ m) : a.lt (yeastNext s m).2 := by
  unfold yeastNext
  split
  · next h => exact .inl (Nat.lt_of_le_of_ne hm fun e => h (hp.trans (congrArg some e)))
  · next h =>
    exact .inr ⟨Option.some.inj (hp.symm.trans (Classical.not_not.mp h)), Nat.lt_succ_of_le (Nat.le_of_eq hr.symm)⟩

/-- the results come out strictly increasing on a clock that never runs backwards, and above any result the state
    still remembers -/
theorem yeastRun_increasing : ∀ (mss : List Nat) (s : YState),
    mss.Pairwise (· ≤ ·) → (∀ p, s.prev = some p → ∀ m ∈ mss, p ≤ m) →
    (yeastRun s mss).Pairwise YOut.lt ∧
    ∀ a : YOut, s.prev = some a.ms → s.seed = a.rank → ∀ o ∈ yeastRun s mss, a.lt o := by
  intro mss
  induction mss with
  | nil => intro s _ _; exact ⟨.nil, fun _ _ _ _ ho => nomatch ho⟩
  | cons m rest ih =>
    intro s hs hp
    obtain ⟨hm, hrest⟩ := List.pairwise_cons.mp hs
    obtain ⟨h1, h2, h3⟩ := yeastNext_remembers s m
    obtain ⟨ih1, ih2⟩ := ih (yeastNext s m).1 hrest fun p hp' => Option.some.inj (h2.symm.trans hp') ▸ hm
    -- the new state remembers this result, so all later ones are above it
    have hlt := ih2 _ (h1.symm ▸ h2) h3
    rw [yeastRun]
    refine ⟨List.pairwise_cons.mpr ⟨hlt, ih1⟩, fun a ha hr o ho => ?_⟩
    have h0 := yeastNext_lt ha hr (hp _ ha m List.mem_cons_self)
    rcases List.mem_cons.mp ho with rfl | ho
    · exact h0
    · exact YOut.lt_trans h0 (hlt o ho)

/-- **C20 (yeast, sequential / mutex-serialised): no value is returned twice.**
    For any number of calls, at any clock readings that never decrease, the
    rendered ids are pairwise different. -/
theorem c20_yeast_unique (mss : List Nat) (h : mss.Pairwise (· ≤ ·)) :
    ((yeastRun {} mss).map YOut.render).Pairwise (· ≠ ·) := by
  have := (yeastRun_increasing mss {} h fun _ hp => nomatch hp).1
  rw [List.pairwise_map]
  exact this.imp fun hlt heq => YOut.lt_ne hlt (render_injective _ _ heq)

/-- non-vacuity: three calls in one millisecond, then the next millisecond -/
example : ((yeastRun {} [946684800000, 946684800000, 946684800000, 946684800001]).map
    fun o => String.ofList o.render) = ["Dngpwm0", "Dngpwm0.0", "Dngpwm0.1", "Dngpwm1"] := by
  decide +kernel

end EIO.Ids
